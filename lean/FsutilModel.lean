import FsutilModel.Props.C01
import FsutilModel.Props.C02
import FsutilModel.Props.C03
import FsutilModel.Props.C04
import FsutilModel.Props.C05
import FsutilModel.Props.C06
import FsutilModel.Props.C07
import FsutilModel.Props.C08
import FsutilModel.Props.C09
import FsutilModel.Props.C10
import FsutilModel.Props.C11
import FsutilModel.Props.C12
import FsutilModel.Props.C13
import FsutilModel.Props.C14
import FsutilModel.Props.C15
import FsutilModel.Props.C16
import FsutilModel.Props.C17
import FsutilModel.Props.C18
import FsutilModel.Props.C19
import FsutilModel.Props.C20
