import FsutilModel.DiffInv
/-! Convergence. Each branch of the merge loop keeps the invariant `Inv`; at the end everything is passed, and
`Inv.done_` is the claim. -/
namespace Fsm.D

variable {P : Type} [DecidableEq P] {I : Type}

theorem inv_init {O : PathOrd P} {L U : List (Ent P I)} (hL : Valid O L) (hU : Valid O U) :
    Inv O (toMap U) L U none (toMap L) where
  done_ q hq := by
    rw [toMap_eq_none.mpr fun x hx => (hq.ne_left hx).symm, toMap_eq_none.mpr fun x hx => (hq.ne_right hx).symm]
  pnone _ _ hnl := toMap_eq_none.mpr hnl
  pl l hl := .inl (toMap_mem hL.sorted hl)
  rmok := nofun
  sL := hL.sorted
  sU := hU.sorted
  tUus u hu := toMap_mem hU.sorted hu
  tUdom q e h := .inl ⟨e, toMap_some_mem h⟩
  cU x hx p hp := .inl (hU.closed x hx p hp)
  cL x hx p hp := .inl (hL.closed x hx p hp)

section
variable [DecidableEq I]

variable {O : PathOrd P} {tU : TMap P I} {l u : Ent P I} {ls us : List (Ent P I)} {rm rm' : Option P} {t : TMap P I}

theorem popL_delete (hi : Inv O tU (l :: ls) us rm t) (hlt : ∀ u ∈ us, O.lt l.path u.path = true)
    (hrm' : ∀ d', rm' = some d' → d' = l.path) : Inv O tU ls us rm' (applyEv O t (.delete l.path)) := by
  refine inv_popL hi hlt ?hbelow ?hat ?habsent ?hkept ?hrm
  case hbelow =>
    intro q hq
    rw [applyEv_delete, if_neg]
    exact fun h => h.elim (O.lt_ne hq) (Bool.eq_false_iff.mp (O.not_under_of_lt hq))
  case hat => rw [applyEv_delete, if_pos (.inl rfl)]
  case habsent =>
    intro q hq
    rw [applyEv_delete, hq, ite_self]
  case hkept =>
    intro l' hl'
    rw [applyEv_delete]
    by_cases hu : O.under l.path l'.path = true
    · exact .inr ⟨if_pos (.inr hu), hu⟩
    · exact .inl (if_neg fun h => h.elim (O.lt_ne (hi.sL.head l' hl')).symm hu)
  case hrm =>
    intro d' hd' l' hl' hu
    rw [applyEv_delete, if_pos (.inr (hrm' d' hd' ▸ hu))]

theorem popL_skip {d : P} (hi : Inv O tU (l :: ls) us (some d) t) (hlt : ∀ u ∈ us, O.lt l.path u.path = true)
    (hu : O.under d l.path = true) : Inv O tU ls us (some d) t :=
  inv_popL hi hlt (fun _ _ => rfl) (hi.rmok d rfl l (.head _) hu) (fun _ h => h) (fun _ _ => .inl rfl)
    fun d' hd' l' hl' => hi.rmok d' hd' l' (.tail _ hl')

theorem popU_add (hi : Inv O tU ls (u :: us) rm t) (hlt : ∀ l ∈ ls, O.lt u.path l.path = true) :
    Inv O tU ls us none (applyEv O t (.add u)) := by
  have hnone : t u.path = none :=
    hi.pnone _ (not_before_right (.head _)) fun l hl => (O.lt_ne (hlt l hl)).symm
  refine inv_popU hi hlt ?hother ?hat
  case hother => intro q hq; simp [applyEv_add, hq, hnone]
  case hat => simp [applyEv_add]

theorem popB_same (hi : Inv O tU (l :: ls) (u :: us) rm t) (hp : l.path = u.path) (hs : same l u = true) :
    Inv O tU ls us none t :=
  inv_popB hi hp (fun _ _ => rfl) ((hi.old_head hp).trans (congrArg some (eq_of_same hp hs)))
    (fun _ h _ => h) (fun _ _ => .inl rfl) nofun

theorem popB_modify (hi : Inv O tU (l :: ls) (u :: us) rm t) (hp : l.path = u.path) :
    Inv O tU ls us (if (l.isDir && !u.isDir) = true then some l.path else none) (applyEv O t (.modify u)) := by
  -- a remaining old entry disappears iff it lies under `u` and `u` replaces a directory by a file or the reverse
  have key : ∀ l' ∈ ls, applyEv O t (.add u) l'.path =
      if (O.under u.path l'.path && (l.isDir != u.isDir)) = true then none else t l'.path := by
    intro l' hl'
    rw [applyEv_add, if_neg (hp ▸ (O.lt_ne (hi.sL.head l' hl')).symm), hi.old_head hp]
  rw [applyEv_modify]
  refine inv_popB hi hp ?hbelow ?hat ?habsent ?hkept ?hrm
  case hbelow =>
    intro q hq
    rw [applyEv_add, if_neg (O.lt_ne hq), O.not_under_of_lt hq, Bool.false_and, if_neg Bool.false_ne_true]
  case hat => rw [applyEv_add, if_pos rfl]
  case habsent =>
    intro q hq hne
    rw [applyEv_add, if_neg hne, hq, ite_self]
  case hkept =>
    intro l' hl'
    rw [key l' hl']
    by_cases hc : (O.under u.path l'.path && (l.isDir != u.isDir)) = true
    · have := Bool.and_eq_true_iff.mp hc
      exact .inr ⟨if_pos hc, this.1, bne_iff_ne.mp this.2⟩
    · exact .inl (if_neg hc)
  case hrm =>
    -- by `key` all under `rm'` disappears
    intro d' hd' l' hl' hu
    obtain ⟨hc, rfl⟩ := Option.ite_some_none_eq_some.mp hd'
    have ⟨hld, hud⟩ : l.isDir = true ∧ u.isDir = false := by simpa using hc
    have hc' : (O.under u.path l'.path && (l.isDir != u.isDir)) = true := by rw [← hp, hu, hld, hud]; rfl
    rw [key l' hl', if_pos hc']

theorem diff_fold {fc : Bool} {n : Nat} (hn : ls.length + us.length < n) (hi : Inv O tU ls us rm t) (q : P) :
    (diff O fc n ls us rm).foldl (applyEv O) t q = tU q := by
  refine diff_induct_sorted O fc
    (motive := fun ls us rm r => ∀ t, Inv O tU ls us rm t → r.foldl (applyEv O) t q = tU q)
    ?done ?skip ?del ?add ?keep ?modify n ls us rm hi.sL hi.sU (.inl hn) t hi
  case done => exact fun t hi => hi.done_ q ⟨List.forall_mem_nil _, List.forall_mem_nil _⟩
  case skip => exact fun _ hB hd ih t hi => ih t (popL_skip hi hB.2 hd)
  case del => exact fun _ hB hrm' ih t hi => ih _ (popL_delete hi hB.2 hrm')
  case add => exact fun _ hB ih t hi => ih _ (popU_add hi hB.1)
  case keep => exact fun _ _ hp _ _ hs ih t hi => ih t (popB_same hi hp hs)
  case modify => exact fun _ _ hp _ _ hrm ih t hi => ih _ (hrm ▸ popB_modify hi hp)

theorem diff_converges (O : PathOrd P) (fc : Bool) (L U : List (Ent P I)) (hL : Valid O L) (hU : Valid O U) :
    ∀ q, (diff O fc (L.length + U.length + 1) L U none).foldl (applyEv O) (toMap L) q = toMap U q :=
  diff_fold (by omega) (inv_init hL hU)

end

/-- The second alternative is only "an add or modify of a path above `p`": it does not say that the event took `p`. -/
def Removes (O : PathOrd P) (ev : Ev P I) (p : P) : Prop :=
  (∃ q, ev = .delete q ∧ (p = q ∨ O.under q p = true)) ∨
  (∃ e, (ev = .add e ∨ ev = .modify e) ∧ O.under e.path p = true)

theorem applyEv_none (O : PathOrd P) (t : TMap P I) (ev : Ev P I) (p : P) (h0 : t p ≠ none)
    (h : applyEv O t ev p = none) : Removes O ev p := by
  have upsert : ∀ e, applyEv O t (.add e) p = none → O.under e.path p = true := by
    intro e h
    by_cases hu : O.under e.path p = true
    · exact hu
    · by_cases hp : p = e.path
      · simp [applyEv_add, hp] at h
      · simp only [applyEv_add, hp, hu, Bool.false_and, if_false] at h
        exact absurd h h0
  cases ev with
  | delete q =>
    rw [applyEv_delete] at h
    split at h
    · rename_i hc; exact .inl ⟨q, rfl, hc⟩
    · exact absurd h h0
  | add e => exact .inr ⟨e, .inl rfl, upsert e h⟩
  | modify e => exact .inr ⟨e, .inr rfl, upsert e h⟩

/-- a path that is there before the events and not after them was taken by one of them -/
theorem vanish_cause (O : PathOrd P) : ∀ (evs : List (Ev P I)) (t : TMap P I) (p : P), t p ≠ none →
    evs.foldl (applyEv O) t p = none → ∃ ev ∈ evs, Removes O ev p
  | [], _, _, h0, h => absurd h h0
  | ev :: rest, t, p, h0, h => by
    by_cases h1 : applyEv O t ev p = none
    · exact ⟨ev, .head _, applyEv_none O t ev p h0 h1⟩
    · obtain ⟨ev', hm, hr⟩ := vanish_cause O rest _ p h1 h
      exact ⟨ev', .tail _ hm, hr⟩

end Fsm.D
