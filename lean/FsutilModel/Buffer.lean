/-! buffer.go: chunked allocation; what `WriteTo` writes is the concatenation of the allocated frames. -/
namespace Fsm.B

structure Chunk where
  data : List Nat
  cap : Nat

/-- `alloc n` followed by the caller filling the returned slice with `frame` (|frame| = n) -/
def alloc (chunkSize : Nat) (cs : List Chunk) (frame : List Nat) : List Chunk :=
  let n := frame.length
  if n > chunkSize then cs ++ [⟨frame, n⟩]
  else match cs.getLast? with
    | some last =>
      if last.data.length + n ≤ last.cap then cs.dropLast ++ [⟨last.data ++ frame, last.cap⟩]
      else cs ++ [⟨frame, chunkSize⟩]
    | none => cs ++ [⟨frame, chunkSize⟩]

def flatten (cs : List Chunk) : List Nat := cs.flatMap (·.data)

theorem flatten_append (a b : List Chunk) : flatten (a ++ b) = flatten a ++ flatten b := by
  simp [flatten]

theorem flatten_alloc (chunkSize : Nat) (cs : List Chunk) (frame : List Nat) :
    flatten (alloc chunkSize cs frame) = flatten cs ++ frame := by
  unfold alloc
  by_cases hbig : frame.length > chunkSize
  · simp [hbig, flatten]
  · rw [if_neg hbig]
    cases h : cs.getLast? with
    | none => simp [flatten]
    | some last =>
      obtain ⟨ys, rfl⟩ := List.getLast?_eq_some_iff.mp h
      dsimp only
      split <;> simp [flatten]

theorem buffer_flatten (chunkSize : Nat) (frames : List (List Nat)) :
    flatten (frames.foldl (alloc chunkSize) []) = frames.flatten := by
  suffices h : ∀ cs, flatten (frames.foldl (alloc chunkSize) cs) = flatten cs ++ frames.flatten by
    simpa [flatten] using h []
  induction frames with
  | nil => intro cs; simp
  | cons f fs ih => intro cs; simp [ih, flatten_alloc, List.append_assoc]

end Fsm.B
