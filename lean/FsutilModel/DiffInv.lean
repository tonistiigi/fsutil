import FsutilModel.DiffLoop
/-! The invariant of the merge loop for the convergence theorem, and its preservation by a turn of the loop,
stated for any change of the tree that has the effect the turn's event should have. -/
namespace Fsm.D

variable {P : Type} [DecidableEq P] {I : Type}

/-- ancestors of remaining entries are remaining directories, or already passed -/
def Closed (O : PathOrd P) (xs ls us : List (Ent P I)) : Prop :=
  ∀ x ∈ xs, ∀ p, O.under p x.path = true →
    (∃ d ∈ xs, d.path = p ∧ d.isDir = true) ∨ Before O p ls us

/-- `t` is the old tree after the events emitted so far, `tU` the new listing as a map, `ls`, `us` what remains of the
listings, `rm` the loop's `rmdir`. A path `Before` all that remains is passed and final (`done_`). A remaining old entry
may already be gone from `t` (`pl`): it went with a directory above it that was deleted or replaced, and then the new
listing does not have it. The fields from `sL` on do not mention `t`: `ls`, `us` are tails of two valid listings, what was
consumed is `Before` them. -/
structure Inv (O : PathOrd P) (tU : TMap P I) (ls us : List (Ent P I)) (rm : Option P) (t : TMap P I) : Prop where
  done_ : ∀ q, Before O q ls us → t q = tU q
  pnone : ∀ q, ¬ Before O q ls us → (∀ l ∈ ls, l.path ≠ q) → t q = none
  pl : ∀ l ∈ ls, t l.path = some l ∨ (t l.path = none ∧ ∀ u ∈ us, u.path ≠ l.path)
  rmok : ∀ d, rm = some d → ∀ l ∈ ls, O.under d l.path = true → t l.path = none
  sL : Sorted O ls
  sU : Sorted O us
  tUus : ∀ u ∈ us, tU u.path = some u
  tUdom : ∀ q e, tU q = some e → (∃ u ∈ us, u.path = q) ∨ Before O q ls us
  cU : Closed O us ls us
  cL : Closed O ls ls us

variable {O : PathOrd P} {tU : TMap P I} {ls us : List (Ent P I)} {rm rm' : Option P} {t t' : TMap P I}

theorem Inv.tU_none (hi : Inv O tU ls us rm t) (q : P) (h1 : ∀ u ∈ us, u.path ≠ q) (h2 : ¬ Before O q ls us) :
    tU q = none := by
  cases h : tU q with
  | none => rfl
  | some e =>
    rcases hi.tUdom q e h with ⟨u, hu, hq⟩ | hb
    · exact absurd hq (h1 u hu)
    · exact absurd hb h2

theorem Inv.old_head {l u : Ent P I} (hi : Inv O tU (l :: ls) (u :: us) rm t) (hp : l.path = u.path) : t u.path = some l := by
  rcases hi.pl l (.head _) with h | ⟨_, h2⟩
  · exact hp ▸ h
  · exact absurd hp.symm (h2 u (.head _))

theorem Closed.head_isDir {h x : Ent P I} {xs : List (Ent P I)} (hc : Closed O (h :: xs) ls us)
    (hs : Sorted O (h :: xs)) (hnB : ¬ Before O h.path ls us) (hx : x ∈ xs) (hu : O.under h.path x.path = true) :
    h.isDir = true := by
  rcases hc x (.tail _ hx) h.path hu with ⟨d, hdm, hdp, hdd⟩ | hB
  · rcases List.mem_cons.mp hdm with rfl | hdm
    · exact hdd
    · exact absurd hdp.symm (O.lt_ne (hs.head d hdm))
  · exact absurd hB hnB

/-- The invariant survives a turn that takes the entries `ls₀`, `us₀` at the least remaining path `p` off the two
lists (each is a head or nothing). `hbelow` … `hrm` are the turn's effect on the tree; `inv_popL/B` ask the same five of
their kind of turn, as `ha` … `he`. -/
theorem inv_pop {ls₀ us₀ : List (Ent P I)} {p : P} (hi : Inv O tU (ls₀ ++ ls) (us₀ ++ us) rm t)
    (hpl : ∀ x ∈ ls₀, x.path = p) (hpu : ∀ x ∈ us₀, x.path = p)
    (hB : Before O p ls us) (hnB : ¬ Before O p (ls₀ ++ ls) (us₀ ++ us))
    (hbelow : ∀ q, O.lt q p = true → t' q = t q)
    (hat : t' p = tU p)
    (habsent : ∀ q, t q = none → q ≠ p → t' q = none)
    (hkept : ∀ l ∈ ls, t' l.path = t l.path ∨ (t' l.path = none ∧ ∀ u ∈ us, u.path ≠ l.path))
    (hrm : ∀ d, rm' = some d → ∀ l ∈ ls, O.under d l.path = true → t' l.path = none) :
    Inv O tU ls us rm' t' := by
  have hmono : ∀ {q}, Before O q (ls₀ ++ ls) (us₀ ++ us) → Before O q ls us :=
    fun h => h.mono (List.subset_append_right _ _) (List.subset_append_right _ _)
  have shrink : ∀ {xs₀ xs : List (Ent P I)}, (∀ x ∈ xs₀, x.path = p) →
      ∀ d ∈ xs₀ ++ xs, d ∈ xs ∨ Before O d.path ls us :=
    fun hp d hd => (List.mem_append.mp hd).symm.imp_right fun hd => hp d hd ▸ hB
  have closed : ∀ {xs₀ xs : List (Ent P I)}, (∀ x ∈ xs₀, x.path = p) →
      Closed O (xs₀ ++ xs) (ls₀ ++ ls) (us₀ ++ us) → Closed O xs ls us := by
    intro xs₀ xs hp hc x hx q hq
    rcases hc x (List.mem_append_right _ hx) q hq with ⟨d, hd, rfl, hdir⟩ | hq
    · exact (shrink hp d hd).imp_left fun hd => ⟨d, hd, rfl, hdir⟩
    · exact .inr (hmono hq)
  refine {
    rmok := hrm, sL := hi.sL.append_right, sU := hi.sU.append_right,
    tUus := fun u h => hi.tUus u (List.mem_append_right _ h), cU := closed hpu hi.cU, cL := closed hpl hi.cL,
    done_ := ?done_, pnone := ?pnone, pl := ?pl, tUdom := ?tUdom }
  case done_ =>
    intro q hq
    rcases O.lt_total q p with rfl | h | h
    · exact hat
    · -- below `p`: passed before the turn already
      rw [hbelow q h]
      exact hi.done_ q ⟨List.forall_mem_append.mpr ⟨fun x hx => hpl x hx ▸ h, hq.1⟩,
        List.forall_mem_append.mpr ⟨fun x hx => hpu x hx ▸ h, hq.2⟩⟩
    · -- above `p` and below all that remains: neither listing has it
      have hne : p ≠ q := O.lt_ne h
      have hnb : ¬ Before O q (ls₀ ++ ls) (us₀ ++ us) := fun hq' =>
        hnB ⟨fun x hx => O.lt_trans _ _ _ h (hq'.1 x hx), fun x hx => O.lt_trans _ _ _ h (hq'.2 x hx)⟩
      have hnl : ∀ x ∈ ls₀ ++ ls, x.path ≠ q :=
        List.forall_mem_append.mpr ⟨fun x hx => hpl x hx ▸ hne, fun x hx => (hq.ne_left hx).symm⟩
      have hnu : ∀ x ∈ us₀ ++ us, x.path ≠ q :=
        List.forall_mem_append.mpr ⟨fun x hx => hpu x hx ▸ hne, fun x hx => (hq.ne_right hx).symm⟩
      rw [habsent q (hi.pnone q hnb hnl) hne.symm, hi.tU_none q hnu hnb]
  case pnone =>
    intro q hnb hnl
    have hne : q ≠ p := fun e => hnb (e ▸ hB)
    exact habsent q (hi.pnone q (fun h => hnb (hmono h))
      (List.forall_mem_append.mpr ⟨fun x hx => hpl x hx ▸ hne.symm, hnl⟩)) hne
  case pl =>
    intro l hl
    rcases hkept l hl with h | h
    · exact h ▸ (hi.pl l (List.mem_append_right _ hl)).imp_right fun h =>
        ⟨h.1, fun u hu => h.2 u (List.mem_append_right _ hu)⟩
    · exact .inr h
  case tUdom =>
    intro q e hq
    rcases hi.tUdom q e hq with ⟨u, hu, rfl⟩ | h
    · exact (shrink hpu u hu).imp_left fun hu => ⟨u, hu, rfl⟩
    · exact .inr (hmono h)

variable [DecidableEq I]

theorem inv_popL {O : PathOrd P} {tU : TMap P I} {l : Ent P I} {ls us : List (Ent P I)} {rm rm' : Option P}
    {t t' : TMap P I} (hi : Inv O tU (l :: ls) us rm t)
    (hlt : ∀ u ∈ us, O.lt l.path u.path = true)
    (ha : ∀ q, O.lt q l.path = true → t' q = t q)
    (hb : t' l.path = none)
    (hc : ∀ q, t q = none → t' q = none)
    (hd : ∀ l' ∈ ls, t' l'.path = t l'.path ∨ (t' l'.path = none ∧ O.under l.path l'.path = true))
    (he : ∀ d', rm' = some d' → ∀ l' ∈ ls, O.under d' l'.path = true → t' l'.path = none) :
    Inv O tU ls us rm' t' := by
  have hB : Before O l.path ls us := ⟨hi.sL.head, hlt⟩
  have hnB : ¬ Before O l.path (l :: ls) us := not_before_left (.head _)
  refine inv_pop (ls₀ := [l]) (us₀ := []) hi (List.forall_mem_singleton.mpr rfl) (List.forall_mem_nil _) hB hnB
    (hbelow := ha) (hat := hb.trans (hi.tU_none _ (fun u hu => (hB.ne_right hu).symm) hnB).symm)
    (habsent := fun q h _ => hc q h) (hrm := he) (hkept := ?_)
  -- an upper entry under `l` would need `l.path` as an upper directory
  refine fun l' hl' => (hd l' hl').imp_right fun ⟨h1, h2⟩ => ⟨h1, fun u hu e => ?_⟩
  rcases hi.cU u hu l.path (e ▸ h2) with ⟨d, hdm, hdp, _⟩ | hB'
  · exact hB.ne_right hdm hdp.symm
  · exact hnB hB'

theorem inv_popU {O : PathOrd P} {tU : TMap P I} {u : Ent P I} {ls us : List (Ent P I)} {rm : Option P}
    {t t' : TMap P I} (hi : Inv O tU ls (u :: us) rm t)
    (hlt : ∀ l ∈ ls, O.lt u.path l.path = true)
    (ha : ∀ q, q ≠ u.path → t' q = t q)
    (hb : t' u.path = some u) :
    Inv O tU ls us none t' := by
  have hB : Before O u.path ls us := ⟨hlt, hi.sU.head⟩
  exact inv_pop (ls₀ := []) (us₀ := [u]) hi (List.forall_mem_nil _) (List.forall_mem_singleton.mpr rfl)
    hB (not_before_right (.head _)) (hbelow := fun q h => ha q (O.lt_ne h))
    (hat := hb.trans (hi.tUus u (.head _)).symm) (habsent := fun q h hne => (ha q hne).trans h)
    (hkept := fun l hl => .inl (ha _ (hB.ne_left hl).symm)) (hrm := nofun)

theorem inv_popB {O : PathOrd P} {tU : TMap P I} {l u : Ent P I} {ls us : List (Ent P I)} {rm rm' : Option P}
    {t t' : TMap P I} (hi : Inv O tU (l :: ls) (u :: us) rm t)
    (hp : l.path = u.path)
    (ha : ∀ q, O.lt q u.path = true → t' q = t q)
    (hb : t' u.path = some u)
    (hc : ∀ q, t q = none → q ≠ u.path → t' q = none)
    (hd : ∀ l' ∈ ls, t' l'.path = t l'.path ∨
        (t' l'.path = none ∧ O.under u.path l'.path = true ∧ l.isDir ≠ u.isDir))
    (he : ∀ d', rm' = some d' → ∀ l' ∈ ls, O.under d' l'.path = true → t' l'.path = none) :
    Inv O tU ls us rm' t' := by
  have hnB : ¬ Before O u.path (l :: ls) (u :: us) := not_before_right (.head _)
  refine inv_pop (ls₀ := [l]) (us₀ := [u]) hi (List.forall_mem_singleton.mpr hp) (List.forall_mem_singleton.mpr rfl)
    ⟨hp ▸ hi.sL.head, hi.sU.head⟩ hnB
    (hbelow := ha) (hat := hb.trans (hi.tUus u (.head _)).symm) (habsent := hc) (hrm := he) (hkept := ?_)
  -- an upper entry below `u` forces `u` to be a directory, the lower entry `l'` below `l` forces `l` to be one
  refine fun l' hl' => (hd l' hl').imp_right fun ⟨h1, h2, h3⟩ => ⟨h1, fun x hx e => h3 ?_⟩
  rw [hi.cU.head_isDir hi.sU hnB hx (e ▸ h2), hi.cL.head_isDir hi.sL (hp ▸ hnB) hl' (hp ▸ h2)]

end Fsm.D
