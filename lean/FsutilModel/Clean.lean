import FsutilModel.Path
/-! `filepath.Clean` over components, and the validator's lexical test.
`cleanComps` is a left fold of `cleanPush`; every fact about it is a fact about one `cleanPush`, by `cleanPush_elim`,
carried along the fold. -/
namespace Fsm

abbrev dot : Nat := 46
abbrev dd : Path := [46, 46]

/-- Go's filepath.Clean for '/', over components; `acc` is the reversed output stack -/
def cleanComps (rooted : Bool) : List Path → List Path → List Path
  | acc, [] => acc.reverse
  | acc, c :: cs =>
    if c = [] ∨ c = [dot] then cleanComps rooted acc cs
    else if c = dd then
      match acc with
      | [] => if rooted then cleanComps rooted [] cs else cleanComps rooted [dd] cs
      | top :: rest =>
        if top = dd then cleanComps rooted (dd :: acc) cs
        else cleanComps rooted rest cs
    else cleanComps rooted (c :: acc) cs

def isAbs (p : Path) : Bool := p.head? == some sep

def clean (p : Path) : Path :=
  if p = [] then [dot] else
  let out := joinSep (cleanComps (isAbs p) [] (comps p))
  if isAbs p then sep :: out
  else if out = [] then [dot] else out

def PlainC' (c : Path) : Prop := c ≠ [] ∧ c ≠ [dot] ∧ c ≠ dd

/-- shape of the output stack (top first): plain components on top of a run of ".." -/
def NFs (acc : List Path) : Prop :=
  ∃ pp k, acc = pp ++ List.replicate k dd ∧ ∀ c ∈ pp, PlainC' c

/-- the lexical test of the validator (with the `.`/`..` repair when `fixed`) -/
def isCleanRel (fixed : Bool) (p : Path) : Prop :=
  clean p = p ∧ isAbs p = false ∧ ¬ ((dd ++ [sep]) <+: p) ∧
  (fixed = true → p ≠ [dot] ∧ p ≠ dd)

def PlainList (cs : List Path) : Prop := cs ≠ [] ∧ ∀ c ∈ cs, PlainC' c ∧ sep ∉ c

/-- the empty list is the root -/
def PlainComps (cs : List Path) : Prop := ∀ c ∈ cs, PlainC' c ∧ sep ∉ c

theorem PlainComps.sepfree {cs} (h : PlainComps cs) : AllSepFree cs := fun c hc => (h c hc).2
theorem PlainComps.plainList {cs} (h : PlainComps cs) (hne : cs ≠ []) : PlainList cs := ⟨hne, h⟩

theorem plainComps_append {a b : List Path} : PlainComps (a ++ b) ↔ PlainComps a ∧ PlainComps b :=
  List.forall_mem_append

theorem clean_rel {p : Path} (hne : p ≠ []) (habs : isAbs p = false) :
    clean p = (let out := joinSep (cleanComps false [] (comps p)); if out = [] then [dot] else out) := by
  simp [clean, hne, habs]

theorem clean_abs (a : Path) : clean (sep :: a) = sep :: joinSep (cleanComps true [] (comps (sep :: a))) := by
  simp [clean, isAbs]

def cleanPush (rooted : Bool) (acc : List Path) (c : Path) : List Path :=
  if c = [] ∨ c = [dot] then acc
  else if c = dd then
    match acc with
    | [] => if rooted then [] else [dd]
    | top :: rest => if top = dd then dd :: acc else rest
  else c :: acc

theorem cleanPush_elim {motive : List Path → Prop} (r : Bool) (acc : List Path) (c : Path)
    (skip : c = [] ∨ c = [dot] → motive acc)
    (push : PlainC' c → motive (c :: acc))
    (bottom : c = dd → acc = [] → motive (if r then [] else [dd]))
    (more : c = dd → ∀ rest, acc = dd :: rest → motive (dd :: acc))
    (pop : c = dd → ∀ top rest, acc = top :: rest → top ≠ dd → motive rest) :
    motive (cleanPush r acc c) := by
  unfold cleanPush
  by_cases h1 : c = [] ∨ c = [dot]
  · rw [if_pos h1]; exact skip h1
  rw [if_neg h1]
  by_cases h2 : c = dd
  · rw [if_pos h2]
    cases acc with
    | nil => exact bottom h2 rfl
    | cons top rest =>
      by_cases ht : top = dd
      · subst ht; exact more h2 rest rfl
      · simp only [ht, if_false]; exact pop h2 top rest rfl ht
  · rw [if_neg h2]; exact push ⟨fun e => h1 (.inl e), fun e => h1 (.inr e), h2⟩

theorem cleanComps_cons (r : Bool) (acc : List Path) (c : Path) (cs : List Path) :
    cleanComps r acc (c :: cs) = cleanComps r (cleanPush r acc c) cs := by
  refine cleanPush_elim (motive := fun out => cleanComps r acc (c :: cs) = cleanComps r out cs) r acc c
    ?skip ?push ?bottom ?more ?pop
  case skip => intro h; cases acc <;> simp only [cleanComps, h, if_true]
  case push => intro h; cases acc <;> simp [cleanComps, h.1, h.2.1, h.2.2]
  case bottom => rintro rfl rfl; cases r <;> simp [cleanComps]
  case more => rintro rfl rest rfl; simp [cleanComps]
  case pop => rintro rfl top rest rfl ht; simp [cleanComps, ht]

theorem cleanComps_eq_foldl (r : Bool) (cs : List Path) :
    ∀ acc, cleanComps r acc cs = (cs.foldl (cleanPush r) acc).reverse := by
  induction cs with
  | nil => intro acc; rfl
  | cons c cs ih => intro acc; rw [cleanComps_cons, ih, List.foldl_cons]

theorem cleanPush_skip (r : Bool) (acc : List Path) {c : Path} (h : c = [] ∨ c = [dot]) :
    cleanPush r acc c = acc := if_pos h

theorem cleanPush_plain (r : Bool) (acc : List Path) {c : Path} (h : PlainC' c) :
    cleanPush r acc c = c :: acc := by
  simp [cleanPush, h.1, h.2.1, h.2.2]

theorem mem_cleanPush {r : Bool} {acc : List Path} {c x : Path} : x ∈ cleanPush r acc c → x ∈ acc ∨ x = c := by
  refine cleanPush_elim (motive := fun out => x ∈ out → x ∈ acc ∨ x = c) r acc c ?skip ?push ?bottom ?more ?pop
  case skip => exact fun _ h => .inl h
  case push => exact fun _ h => (List.mem_cons.mp h).symm
  case bottom =>
    intro hc _ h
    cases r with
    | true => cases h
    | false => exact .inr ((List.mem_singleton.mp h).trans hc.symm)
  case more => intro hc _ _ h; exact (List.mem_cons.mp h).symm.imp_right fun e => e.trans hc.symm
  case pop => intro _ top rest hacc _ h; exact .inl (hacc ▸ List.mem_cons_of_mem top h)

theorem mem_cleanComps {r : Bool} {acc cs : List Path} {x : Path} (h : x ∈ cleanComps r acc cs) : x ∈ acc ∨ x ∈ cs := by
  rw [cleanComps_eq_foldl, List.mem_reverse] at h
  revert h
  refine List.foldlRecOn cs (cleanPush r) (motive := fun out => x ∈ out → x ∈ acc ∨ x ∈ cs) .inl ?_
  intro out ih c hc h
  rcases mem_cleanPush h with h | rfl
  · exact ih h
  · exact .inr hc

theorem cleanComps_append_empty (r : Bool) (cs acc : List Path) :
    cleanComps r acc (cs ++ [[]]) = cleanComps r acc cs := by
  simp [cleanComps_eq_foldl, cleanPush_skip]

theorem cleanComps_plain (r : Bool) : ∀ (cs acc : List Path), (∀ c ∈ cs, PlainC' c) →
    cleanComps r acc cs = acc.reverse ++ cs := by
  intro cs
  induction cs with
  | nil => intro acc _; simp [cleanComps]
  | cons c cs ih =>
    intro acc h
    rw [cleanComps_cons, cleanPush_plain r acc (h c (by simp)), ih _ fun x hx => h x (by simp [hx])]
    simp

theorem clean_of_plain (cs : List Path) (hne : cs ≠ []) (hp : ∀ c ∈ cs, PlainC' c) (hs : ∀ c ∈ cs, sep ∉ c) :
    clean (joinSep cs) = joinSep cs ∧ isAbs (joinSep cs) = false := by
  have hcomps := comps_joinSep cs hne hs
  obtain ⟨c, ds, rfl⟩ := List.exists_cons_of_ne_nil hne
  obtain ⟨b, bs, rfl⟩ := List.exists_cons_of_ne_nil (hp c (by simp)).1
  have hb : b ≠ sep := (List.ne_of_not_mem_cons (hs _ (List.mem_cons_self ..))).symm
  obtain ⟨r, hr⟩ : ∃ r, joinSep ((b :: bs) :: ds) = b :: r := by
    rcases joinSep_cons_head (b :: bs) ds with h | ⟨t, h⟩ <;> exact ⟨_, h⟩
  have habs : isAbs (joinSep ((b :: bs) :: ds)) = false := by simp [hr, isAbs, hb]
  refine ⟨?_, habs⟩
  rw [clean_rel (by simp [hr]) habs, hcomps, cleanComps_plain false _ [] hp]
  simp [hr]

theorem clean_snoc_sep (p : Path) (h : p ≠ []) : clean (p ++ [sep]) = clean p := by
  have habs : isAbs (p ++ [sep]) = isAbs p := by
    obtain ⟨x, xs, rfl⟩ := List.exists_cons_of_ne_nil h; rfl
  simp [clean, h, habs, comps_snoc_sep, cleanComps_append_empty]

theorem cleanPush_nf {acc : List Path} (c : Path) (h : NFs acc) : NFs (cleanPush false acc c) := by
  obtain ⟨pp, k, rfl, hpp⟩ := h
  refine cleanPush_elim (motive := NFs) false _ c ?skip ?push ?bottom ?more ?pop
  case skip => exact fun _ => ⟨pp, k, rfl, hpp⟩
  case push => exact fun hc => ⟨c :: pp, k, rfl, by simpa [hc] using hpp⟩
  case bottom => exact fun _ _ => ⟨[], 1, rfl, by simp⟩
  case more =>
    -- the top is "..", which is not plain: there are no plain components
    intro _ rest hacc
    cases pp with
    | nil => exact ⟨[], k + 1, by simp [List.replicate_succ], by simp⟩
    | cons x xs => exact absurd (List.cons.inj hacc).1 (hpp x (by simp)).2.2
  case pop =>
    intro _ top rest hacc htop
    cases pp with
    | nil =>
      cases k with
      | zero => simp at hacc
      | succ k => exact absurd (List.cons.inj hacc).1.symm htop
    | cons x xs => exact ⟨xs, k, (List.cons.inj hacc).2.symm, fun y hy => hpp y (by simp [hy])⟩

theorem cleanComps_nf : ∀ (cs acc : List Path), NFs acc →
    ∃ pp k, cleanComps false acc cs = List.replicate k dd ++ pp ∧ ∀ c ∈ pp, PlainC' c := by
  intro cs acc hnf
  rw [cleanComps_eq_foldl]
  obtain ⟨pp, k, hout, hpp⟩ := List.foldlRecOn cs (cleanPush false) hnf fun _ h c _ => cleanPush_nf c h
  exact ⟨pp.reverse, k, by simp [hout], fun c hc => hpp c (by simpa using hc)⟩

/-- the (repaired) lexical test of the validator accepts exactly the paths made of plain components -/
theorem isCleanRel_iff_plain (p : Path) :
    isCleanRel true p ↔ ∃ cs, PlainList cs ∧ p = joinSep cs := by
  constructor
  · rintro ⟨hclean, habs, hpre, hfix⟩
    obtain ⟨hnd, hndd⟩ := hfix rfl
    have hpne : p ≠ [] := by
      intro e; subst e; cases hclean
    obtain ⟨pp, k, hres, hpp⟩ := cleanComps_nf (comps p) [] ⟨[], 0, by simp, by simp⟩
    rw [clean_rel hpne habs, hres] at hclean
    by_cases hout : joinSep (List.replicate k dd ++ pp) = []
    · simp [hout] at hclean; exact absurd hclean.symm hnd
    · simp only [hout, if_false] at hclean
      -- k must be 0, otherwise p is ".." or starts with "../"
      have hk : k = 0 := by
        cases k with
        | zero => rfl
        | succ k =>
          rw [List.replicate_succ, List.cons_append] at hclean
          rcases joinSep_cons_head dd (List.replicate k dd ++ pp) with h | ⟨t, h⟩
          · exact absurd (hclean.symm.trans h) hndd
          · exact absurd ⟨t, by rw [← hclean, h]; simp⟩ hpre
      subst hk
      simp only [List.replicate_zero, List.nil_append] at hclean hres
      have hppne : pp ≠ [] := by intro e; subst e; simp [joinSep] at hout
      refine ⟨pp, ⟨hppne, fun c hc => ⟨hpp c hc, ?_⟩⟩, hclean.symm⟩
      rcases mem_cleanComps (hres ▸ hc) with h | h
      · cases h
      · exact comps_all_sepfree p c h
  · rintro ⟨cs, ⟨hne, hpl⟩, rfl⟩
    have hp : ∀ c ∈ cs, PlainC' c := fun c hc => (hpl c hc).1
    have hs := PlainComps.sepfree hpl
    obtain ⟨h1, h2⟩ := clean_of_plain cs hne hp hs
    have hmem : ∀ c ∈ comps (joinSep cs), c ≠ [dot] ∧ c ≠ dd := by
      rw [comps_joinSep cs hne hs]; exact fun c hc => (hp c hc).2
    refine ⟨h1, h2, ?_, fun _ => ⟨?_, ?_⟩⟩
    · rintro ⟨t, ht⟩
      have : comps (joinSep cs) = dd :: comps t := by
        rw [← ht, List.append_assoc]; exact comps_append_sep dd _
      exact (hmem dd (by simp [this])).2 rfl
    · intro e; exact (hmem [dot] (by rw [e]; decide)).1 rfl
    · intro e; exact (hmem dd (by rw [e]; decide)).2 rfl

theorem isCleanRel_iff_comps (p : Path) : isCleanRel true p ↔ PlainComps (comps p) := by
  rw [isCleanRel_iff_plain]
  constructor
  · rintro ⟨cs, hpl, rfl⟩
    rw [comps_joinSep cs hpl.1 fun c hc => (hpl.2 c hc).2]; exact hpl.2
  · exact fun h => ⟨comps p, h.plainList (comps_ne_nil p), (joinSep_comps p).symm⟩

theorem PlainComps.isCleanRel {cs} (h : PlainComps cs) (hne : cs ≠ []) : isCleanRel true (joinSep cs) :=
  (isCleanRel_iff_plain _).mpr ⟨cs, h.plainList hne, rfl⟩

theorem PlainComps.ne_dot_dd {cs} (h : PlainComps cs) (hne : cs ≠ []) : joinSep cs ≠ [dot] ∧ joinSep cs ≠ dd :=
  (h.isCleanRel hne).2.2.2 rfl

theorem PlainComps.joinSep_ne_nil {cs} (h : PlainComps cs) (hne : cs ≠ []) : joinSep cs ≠ [] := by
  obtain ⟨c, ds, rfl⟩ := List.exists_cons_of_ne_nil hne
  exact Fsm.joinSep_ne_nil (h c (by simp)).1.1 ds

theorem joinSep_inj {a b : List Path} (ha : PlainComps a) (hb : PlainComps b) (h : joinSep a = joinSep b) : a = b := by
  cases a with
  | nil =>
    cases b with
    | nil => rfl
    | cons d ds => exact absurd h.symm (hb.joinSep_ne_nil (by simp))
  | cons c cs =>
    cases b with
    | nil => exact absurd h (ha.joinSep_ne_nil (by simp))
    | cons d ds =>
      have := congrArg comps h
      rwa [comps_joinSep _ (by simp) ha.sepfree, comps_joinSep _ (by simp) hb.sepfree] at this

/-- unrepaired (F1): ".." passes the test -/
theorem dotdot_passes_today : isCleanRel false dd := by
  unfold isCleanRel; decide

theorem dot_passes_today : isCleanRel false [dot] := by
  unfold isCleanRel; decide

theorem cleanPush_rooted {acc : List Path} (c : Path) (h : ∀ x ∈ acc, PlainC' x) :
    ∀ x ∈ cleanPush true acc c, PlainC' x := by
  refine cleanPush_elim (motive := fun out => ∀ x ∈ out, PlainC' x) true acc c ?skip ?push ?bottom ?more ?pop
  case skip => exact fun _ => h
  case push => exact fun hc => by simpa [hc] using h
  case bottom => exact fun _ _ => by simp
  case more => intro _ rest hacc; exact absurd rfl (h dd (by simp [hacc])).2.2
  case pop => intro _ top rest hacc _ x hx; exact h x (by simp [hacc, hx])

theorem clean_rooted (a : Path) : ∃ cs : List Path, clean (sep :: a) = sep :: joinSep cs ∧ PlainComps cs := by
  refine ⟨cleanComps true [] (comps (sep :: a)), clean_abs a, fun c hc => ⟨?_, ?_⟩⟩
  · rw [cleanComps_eq_foldl, List.mem_reverse] at hc
    exact List.foldlRecOn _ (cleanPush true) (motive := fun out => ∀ x ∈ out, PlainC' x) (by simp)
      (fun _ h c _ => cleanPush_rooted c h) c hc
  · exact (mem_cleanComps hc).elim (by simp) (comps_all_sepfree _ c)

end Fsm
