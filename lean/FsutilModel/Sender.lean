import FsutilModel.Basic
/-! Abstract sender LTS of the wire protocol (C06) and its basic invariant `Inv`. The state is a STAT counter and, for every
    id, a phase that moves along a fixed life cycle (`Edge`); an invariant about one id is checked edge by edge (`step_at`). -/
namespace Fsm.S

abbrev Bytes := List Nat

inductive Phase
  | unannounced | requestable | queued | active (off : Nat) | finished
deriving DecidableEq, Repr

structure St where
  view : List (Bool × Bytes)          -- per STAT index: (regular?, bytes)
  sent : Nat := 0
  endSent : Bool := false
  phase : Nat → Phase := fun _ => .unannounced
  out : List (Nat × Bytes) := []      -- DATA history (terminator = empty payload)
  failed : Bool := false

inductive Ev
  | sendStat | sendEnd
  | recvReq (id : Nat)
  | open_ (id : Nat)
  | data (id k : Nat)
  | term (id : Nat)

def upd (f : Nat → Phase) (i : Nat) (p : Phase) : Nat → Phase := fun j => if j = i then p else f j
@[simp] theorem upd_same (f i p) : upd f i p i = p := by simp [upd]
theorem upd_other {f i p j} (h : j ≠ i) : upd f i p j = f j := by simp [upd, h]

def bytesOf (s : St) (id : Nat) : Bytes := (s.view.getD id (false, [])).2
def isReg (s : St) (id : Nat) : Bool := (s.view.getD id (false, [])).1

def step (s : St) : Ev → Option St
  | .sendStat =>
    if s.failed then none else
    if s.sent < s.view.length then
      some { s with sent := s.sent + 1,
                    phase := if isReg s s.sent then upd s.phase s.sent .requestable else s.phase }
    else none
  | .sendEnd =>
    if s.failed then none else
    if s.sent = s.view.length ∧ s.endSent = false then some { s with endSent := true } else none
  | .recvReq id =>
    if s.failed then none else
    match s.phase id with
    | .requestable => some { s with phase := upd s.phase id .queued }
    | _ => some { s with failed := true }
  | .open_ id =>
    match s.phase id with
    | .queued => some { s with phase := upd s.phase id (.active 0) }
    | _ => none
  | .data id k =>
    match s.phase id with
    | .active off =>
      if 0 < k ∧ off + k ≤ (bytesOf s id).length then
        some { s with phase := upd s.phase id (.active (off + k)),
                      out := s.out ++ [(id, ((bytesOf s id).drop off).take k)] }
      else none
    | _ => none
  | .term id =>
    match s.phase id with
    | .active off =>
      if off = (bytesOf s id).length then
        some { s with phase := upd s.phase id .finished, out := s.out ++ [(id, [])] }
      else none
    | _ => none

def dataFor (id : Nat) (out : List (Nat × Bytes)) : Bytes :=
  (out.filter (fun p => p.1 = id)).flatMap (·.2)
def terms (id : Nat) (out : List (Nat × Bytes)) : Nat :=
  (out.filter (fun p => p.1 = id ∧ p.2 = [])).length

def prog (ph : Phase) (len : Nat) : Nat :=
  match ph with
  | .active off => off
  | .finished => len
  | _ => 0

theorem prog_unannounced (len : Nat) : prog .unannounced len = 0 := rfl
theorem prog_requestable (len : Nat) : prog .requestable len = 0 := rfl
theorem prog_queued (len : Nat) : prog .queued len = 0 := rfl
theorem prog_active (off len : Nat) : prog (.active off) len = off := rfl
theorem prog_finished (len : Nat) : prog .finished len = len := rfl

-- `data` and `reg` are what `sender_data` reads, `fresh` is what gives `id < s.sent`; nothing reads `bound`
structure Inv (s : St) : Prop where
  -- the DATA sent for an id is the prefix of its file that its phase stands for
  data : ∀ id, dataFor id s.out = (bytesOf s id).take (prog (s.phase id) (bytesOf s id).length)
  bound : ∀ id off, s.phase id = .active off → off ≤ (bytesOf s id).length
  fresh : ∀ id, s.sent ≤ id → s.phase id = .unannounced
  reg : ∀ id, s.phase id ≠ .unannounced → isReg s id = true

def init (v : List (Bool × Bytes)) : St := { view := v }

def run : St → List Ev → Option St
  | s, [] => some s
  | s, e :: es => match step s e with | none => none | some s' => run s' es

variable {s s' : St} {e : Ev}

theorem run_eq : run = runOpt step := by
  funext s es
  induction es generalizing s with
  | nil => rfl
  | cons e es ih => rw [run, runOpt_cons, ← funext ih]; cases step s e <;> rfl

theorem step_view (h : step s e = some s') : s'.view = s.view := by
  revert h; fun_cases step s e <;> intro h <;> cases h <;> rfl

theorem step_sent_le (h : step s e = some s') : s.sent ≤ s'.sent := by
  revert h; fun_cases step s e <;> intro h <;> cases h
  · exact Nat.le_succ _
  all_goals exact Nat.le_refl _

theorem step_sendStat_some (h : step s .sendStat = some s') : s.sent < s.view.length :=
  Decidable.by_contra fun hn => by simp [step, hn] at h

theorem step_sendEnd_some (h : step s .sendEnd = some s') : s.endSent = false :=
  Decidable.by_contra fun hn => by simp [step, hn] at h

/-- One move in the life of id `i`, whose entry in the view is `(reg, bs)`: label, phase before, phase after, DATA sent. -/
inductive Edge (reg : Bool) (bs : Bytes) (i : Nat) : Ev → Phase → Phase → List (Nat × Bytes) → Prop
  | announce : reg = true → Edge reg bs i .sendStat .unannounced .requestable []
  | request : Edge reg bs i (.recvReq i) .requestable .queued []
  | open_ : Edge reg bs i (.open_ i) .queued (.active 0) []
  | data {off k} : 0 < k → off + k ≤ bs.length →
      Edge reg bs i (.data i k) (.active off) (.active (off + k)) [(i, (bs.drop off).take k)]
  | term : Edge reg bs i (.term i) (.active bs.length) .finished [(i, [])]

/-- The conjunct `i < s'.sent` is there for `Inv.fresh` alone. -/
theorem step_edge (hi : Inv s) (h : step s e = some s') :
    s'.phase = s.phase ∧ s'.out = s.out ∨
    ∃ i p' em, Edge (isReg s i) (bytesOf s i) i e (s.phase i) p' em ∧ i < s'.sent ∧
      s'.phase = upd s.phase i p' ∧ s'.out = s.out ++ em := by
  have lt : ∀ {i p}, s.phase i = p → p ≠ .unannounced → i < s.sent :=
    fun hp hne => Nat.lt_of_not_le fun hle => hne (hp ▸ hi.fresh _ hle)
  -- the accepting branches of `step`, in its order: sendStat, sendEnd, recvReq (valid, invalid), open_, data, term
  revert h; fun_cases step s e <;> intro h <;> cases h
  · by_cases hr : isReg s s.sent = true
    · refine .inr ⟨s.sent, .requestable, [], ?_, Nat.lt_succ_self _, if_pos hr, (List.append_nil _).symm⟩
      rw [hi.fresh _ (Nat.le_refl _)]; exact .announce hr
    · exact .inl ⟨if_neg hr, rfl⟩
  · exact .inl ⟨rfl, rfl⟩
  · next hp => exact .inr ⟨_, _, [], hp ▸ .request, lt hp nofun, rfl, (List.append_nil _).symm⟩
  · exact .inl ⟨rfl, rfl⟩
  · next hp => exact .inr ⟨_, _, [], hp ▸ .open_, lt hp nofun, rfl, (List.append_nil _).symm⟩
  · next hp hk => exact .inr ⟨_, _, _, hp ▸ .data hk.1 hk.2, lt hp nofun, rfl, rfl⟩
  · next hp => exact .inr ⟨_, _, _, hp ▸ .term, lt hp nofun, rfl, rfl⟩

theorem dataFor_append (id : Nat) (o o' : List (Nat × Bytes)) : dataFor id (o ++ o') = dataFor id o ++ dataFor id o' := by
  simp only [dataFor, List.filter_append, List.flatMap_append]

theorem Edge.take_prog {reg bs i e p p' em} (h : Edge reg bs i e p p' em) :
    bs.take (prog p bs.length) ++ dataFor i em = bs.take (prog p' bs.length) := by
  cases h with
  | announce => rw [prog_unannounced, prog_requestable]; exact List.append_nil _
  | request => rw [prog_requestable, prog_queued]; exact List.append_nil _
  | open_ => rw [prog_queued, prog_active]; exact List.append_nil _
  | data => simp [prog_active, dataFor, List.take_add]
  | term => simp [prog_active, prog_finished, dataFor]

theorem dataFor_foreign {id : Nat} {em : List (Nat × Bytes)} (h : ∀ x ∈ em, x.1 ≠ id) : dataFor id em = [] := by
  rw [dataFor, List.filter_eq_nil_iff.2 fun x hx => by simp [h x hx]]; rfl

theorem Edge.off_le {reg bs i e p p' em} (h : Edge reg bs i e p p' em) {off : Nat} (hp : p' = .active off) :
    off ≤ bs.length := by
  cases h with
  | open_ => cases hp; exact Nat.zero_le _
  | data _ hle => cases hp; exact hle
  | _ => cases hp

theorem Edge.regular {reg bs i e p p' em} (h : Edge reg bs i e p p' em) (hr : p ≠ .unannounced → reg = true) : reg = true := by
  cases h with
  | announce h1 => exact h1
  | _ => exact hr nofun

theorem Edge.fst {reg bs i e p p' em} (h : Edge reg bs i e p p' em) : ∀ x ∈ em, x.1 = i := by
  cases h <;> simp

theorem bytesOf_step (h : step s e = some s') : bytesOf s' = bytesOf s := by funext id; rw [bytesOf, bytesOf, step_view h]
theorem isReg_step (h : step s e = some s') : isReg s' = isReg s := by funext id; rw [isReg, isReg, step_view h]

/-- What one step does to the id `i`: one `Edge`, or nothing. The only place where the id of a step is compared with another. -/
theorem step_at (hi : Inv s) (h : step s e = some s') (i : Nat) :
    ∃ em, s'.out = s.out ++ em ∧
      (s'.phase i = s.phase i ∧ (∀ x ∈ em, x.1 ≠ i) ∨
       Edge (isReg s i) (bytesOf s i) i e (s.phase i) (s'.phase i) em ∧ i < s'.sent) := by
  obtain ⟨hp, ho⟩ | ⟨j, p', em, hE, hlt, hp, ho⟩ := step_edge hi h
  · exact ⟨[], ho.trans (List.append_nil _).symm, .inl ⟨congrFun hp i, nofun⟩⟩
  · refine ⟨em, ho, ?_⟩
    rw [hp]
    by_cases hij : i = j
    · subst hij; rw [upd_same]; exact .inr ⟨hE, hlt⟩
    · exact .inl ⟨upd_other hij, fun x hx hxi => hij (hxi.symm.trans (hE.fst x hx))⟩

theorem inv_init (v) : Inv (init v) :=
  ⟨fun _ => rfl, fun _ _ h => (nomatch h), fun _ _ => rfl, fun _ h => absurd rfl h⟩

theorem inv_step (hi : Inv s) (h : step s e = some s') : Inv s' := by
  refine ⟨fun id => ?_, fun id off hact => ?_, fun id hle => ?_, fun id hne => ?_⟩
  -- each field first for an id that the step leaves alone, then for the id that takes an edge
  all_goals obtain ⟨em, ho, ⟨hp, hem⟩ | ⟨hE, hlt⟩⟩ := step_at hi h id
  · rw [bytesOf_step h, ho, hp, dataFor_append, dataFor_foreign hem, List.append_nil]; exact hi.data id
  · rw [bytesOf_step h, ho, dataFor_append, hi.data id]; exact hE.take_prog
  · exact bytesOf_step h ▸ hi.bound id off (hp ▸ hact)
  · exact bytesOf_step h ▸ hE.off_le hact
  · rw [hp]; exact hi.fresh id (Nat.le_trans (step_sent_le h) hle)
  · exact absurd hlt (Nat.not_lt.2 hle)
  · exact isReg_step h ▸ hi.reg id (hp ▸ hne)
  · exact isReg_step h ▸ hE.regular (hi.reg id)

variable {v : List (Bool × Bytes)} {es : List Ev}

/-- Induction over the runs from `init v`, with `Inv` of the state before the step at hand. -/
theorem run_induction {P : List Ev → St → Prop}
    (hP : ∀ {es s e s'}, Inv s → P es s → step s e = some s' → P (es ++ [e]) s')
    (p0 : P [] (init v)) (h : run (init v) es = some s) : P es s :=
  (runOpt_induction (P := fun es s => Inv s ∧ P es s) (fun hs h => ⟨inv_step hs.1 h, hP hs.1 hs.2 h⟩)
    ⟨inv_init v, p0⟩ (run_eq ▸ h)).2

theorem run_preserves {inv : St → Prop} {s0 : St} (i0 : inv s0) (hinv : ∀ {s e s'}, inv s → step s e = some s' → inv s')
    (h : run s0 es = some s) : inv s :=
  runOpt_induction (P := fun _ => inv) hinv i0 (run_eq ▸ h)

theorem inv_run (h : run (init v) es = some s) : Inv s :=
  run_preserves (inv_init v) inv_step h

theorem view_run (h : run (init v) es = some s) : s.view = v :=
  run_preserves (inv := fun s => s.view = v) rfl (fun hv h => (step_view h).trans hv) h

/-- restated, with its reading, as `C06.sender_data` -/
theorem sender_data (v : List (Bool × Bytes)) (es : List Ev) (s : St) (h : run (init v) es = some s) (id : Nat) :
    dataFor id s.out <+: bytesOf s id ∧
    (s.phase id = .finished → dataFor id s.out = bytesOf s id) ∧
    (dataFor id s.out ≠ [] → isReg s id = true ∧ id < s.sent) := by
  have hi := inv_run h
  refine ⟨?_, ?_, ?_⟩
  · rw [hi.data id]; exact List.take_prefix _ _
  · intro hf; rw [hi.data id, hf, prog_finished]; exact List.take_length
  · intro hne
    have hph : s.phase id ≠ .unannounced := by
      intro hu; apply hne; rw [hi.data id, hu, prog_unannounced]; rfl
    exact ⟨hi.reg id hph, Nat.lt_of_not_le fun hle => hph (hi.fresh id hle)⟩

end Fsm.S
