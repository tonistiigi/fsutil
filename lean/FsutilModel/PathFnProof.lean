import FsutilModel.Model.PathFn
import FsutilModel.Order
/-! Bytes and components. A path that passes the validator's lexical test is `joinSep cs` for a list `cs` of plain
components; on such paths `filepath.Dir`, `Base` and `Join` are `dropLast`, `getLast` and append on the component lists. -/
namespace Fsm

theorem lastSepEnd_go_append (l1 l2 : List Nat) (i acc : Nat) :
    lastSepEnd.go (l1 ++ l2) i acc = lastSepEnd.go l2 (i + l1.length) (lastSepEnd.go l1 i acc) := by
  induction l1 generalizing i acc with
  | nil => simp [lastSepEnd.go]
  | cons b rest ih =>
    simp only [List.cons_append, lastSepEnd.go, List.length_cons]
    rw [ih]
    congr 1
    omega

theorem lastSepEnd_go_sepfree (l : List Nat) (i acc : Nat) (h : sep ∉ l) : lastSepEnd.go l i acc = acc := by
  induction l generalizing i with
  | nil => simp [lastSepEnd.go]
  | cons b rest ih =>
    simp [lastSepEnd.go, (List.ne_of_not_mem_cons h).symm, ih _ (List.not_mem_of_not_mem_cons h)]

theorem stripTrailingSeps_id (p : Path) (x : Nat) (hx : x ≠ sep) : stripTrailingSeps (p ++ [x]) = p ++ [x] := by
  unfold stripTrailingSeps
  simp [hx]

/-- what stands before the last component in `joinSep (init ++ [b])` -/
def joinPre (init : List Path) : Path := if init = [] then [] else joinSep init ++ [sep]

theorem joinPre_nil : joinPre [] = [] := rfl

theorem joinPre_of_ne_nil {init : List Path} (h : init ≠ []) : joinPre init = joinSep init ++ [sep] := if_neg h

theorem joinSep_snoc (init : List Path) (b : Path) : joinSep (init ++ [b]) = joinPre init ++ b := by
  induction init with
  | nil => rfl
  | cons c cs ih =>
    rw [List.cons_append, joinSep_cons_of_ne_nil c (by simp), ih, joinPre_of_ne_nil (List.cons_ne_nil c cs)]
    by_cases h : cs = []
    · subst h; simp [joinPre_nil, joinSep]
    · simp [joinPre_of_ne_nil h, joinSep_cons_of_ne_nil c h]

theorem lastSepEnd_snoc (init : List Path) (b : Path) (hb : sep ∉ b) :
    lastSepEnd (joinPre init ++ b) = (joinPre init).length := by
  unfold lastSepEnd
  rw [lastSepEnd_go_append, lastSepEnd_go_sepfree _ _ _ hb]
  by_cases h : init = []
  · subst h; rfl
  · rw [joinPre_of_ne_nil h, lastSepEnd_go_append]
    simp [lastSepEnd.go]

theorem baseB_snoc (init : List Path) (b : Path) (hb : b ≠ []) (hs : sep ∉ b) :
    baseB (joinSep (init ++ [b])) = b := by
  obtain ⟨b0, x, rfl⟩ : ∃ b0 x, b = b0 ++ [x] := ⟨_, _, (List.dropLast_concat_getLast hb).symm⟩
  have hx : x ≠ sep := by intro e; apply hs; simp [e]
  have hstrip : stripTrailingSeps (joinPre init ++ (b0 ++ [x])) = joinPre init ++ (b0 ++ [x]) := by
    rw [← List.append_assoc]; exact stripTrailingSeps_id _ x hx
  rw [joinSep_snoc, baseB]
  simp only [hstrip]
  rw [lastSepEnd_snoc _ _ hs]
  simp

theorem baseB_clean_rooted (a : Path) :
    baseB (clean (sep :: a)) = [sep] ∨ (PlainC' (baseB (clean (sep :: a))) ∧ sep ∉ baseB (clean (sep :: a))) := by
  obtain ⟨cs, hcl, hp⟩ := clean_rooted a
  rw [hcl]
  by_cases hne : cs = []
  · -- the root itself: `Base "/"` is "/" (a closed term)
    subst hne
    exact .inl (by decide)
  · obtain ⟨init, b, rfl⟩ : ∃ init b, cs = init ++ [b] := ⟨_, _, (List.dropLast_concat_getLast hne).symm⟩
    have hb := hp b (by simp)
    -- a rooted path is the join with an empty first component
    have := baseB_snoc ([] :: init) b hb.1.1 hb.2
    rw [List.cons_append, joinSep_cons_of_ne_nil [] (by simp), List.nil_append] at this
    exact .inr (by rw [this]; exact hb)

theorem dirB_snoc (init : List Path) (b : Path) (hinit : PlainComps init) (hs : sep ∉ b) :
    dirB (joinSep (init ++ [b])) = if init = [] then [dot] else joinSep init := by
  rw [joinSep_snoc, dirB, lastSepEnd_snoc _ _ hs, List.take_left' rfl]
  by_cases h : init = []
  · subst h; rfl
  · rw [if_neg h, joinPre_of_ne_nil h, clean_snoc_sep _ (hinit.joinSep_ne_nil h), (hinit.isCleanRel h).1]

theorem parentOf_snoc (init : List Path) (b : Path) (hp : PlainComps (init ++ [b])) :
    parentOf (joinSep (init ++ [b])) = joinSep init := by
  obtain ⟨hinit, hb⟩ := plainComps_append.mp hp
  rw [parentOf, dirB_snoc init b hinit (hb b (by simp)).2]
  by_cases hi : init = []
  · simp [hi, joinSep]
  · simp [hi, (hinit.ne_dot_dd hi).1]

theorem joinB_dir_base (init : List Path) (b : Path) (hp : PlainComps (init ++ [b])) :
    joinB [joinSep init, b] = joinSep (init ++ [b]) := by
  obtain ⟨hinit, hb⟩ := plainComps_append.mp hp
  have hbne : b ≠ [] := (hb b (by simp)).1.1
  have hcl := (hp.isCleanRel (by simp)).1
  by_cases hi : init = []
  · subst hi; simpa [joinB, joinSep, hbne] using hcl
  · rw [joinSep_snoc, joinPre_of_ne_nil hi] at hcl ⊢
    simpa [joinB, hinit.joinSep_ne_nil hi, hbne, joinSep] using hcl

theorem plain_split {p : Path} (hp : PlainComps (comps p)) :
    ∃ init b, comps p = init ++ [b] ∧ PlainComps (init ++ [b]) ∧ parentOf p = joinSep init ∧ baseB p = b := by
  obtain ⟨init, b, hib⟩ : ∃ init b, comps p = init ++ [b] :=
    ⟨_, _, (List.dropLast_concat_getLast (comps_ne_nil p)).symm⟩
  rw [hib] at hp
  have hb := (plainComps_append.mp hp).2 b (by simp)
  refine ⟨init, b, hib, hp, ?_, ?_⟩
  · rw [← joinSep_comps p, hib, parentOf_snoc init b hp]
  · rw [← joinSep_comps p, hib, baseB_snoc init b hb.1.1 hb.2]

end Fsm
