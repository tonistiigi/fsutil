import FsutilModel.Model.ReceiverConc
/-! Liveness of the receiver after the stream is torn down (C04): no deadlock, a variant that every step decreases, and the
stuck state of a feeder that leaves without closing `closeCh`. -/
namespace Fsm.RC

theorem wf_init (n : Nat) : WF (init n) := by
  refine ⟨?_, ?_, ?_, ?_, ?_, ?_, ?_⟩ <;> simp [init]

namespace WF
variable {s : St} (h : WF s)
include h

theorem cancel {p' : PPc} {d' : DPc} {q' w' : Nat} (hp : p' = .upd → s.p = .upd) :
    WF { s with p := p', d := d', cq := q', writers := w', cancelled := true } :=
  { h with pExit := fun _ => rfl, dLeft := fun _ => .inl rfl, dDone := fun _ => .inl rfl,
           updOpen := fun e => h.updOpen (hp e) }

theorem fCancel (hc : s.cancelled = true) : WF { s with f := .exited, c2closed := true, closeCh := true } :=
  { h with fExit := fun _ => .inl rfl, c2 := iff_of_true rfl rfl, dLeft := fun _ => .inl hc }

theorem dCancel (hc : s.cancelled = true) : WF { s with d := .exited } :=
  { h with dLeft := fun _ => .inl hc, dDone := fun _ => .inl hc }

theorem consume (hd : s.d = .diff) {q' w' : Nat} : WF { s with cq := q', writers := w' } :=
  { h with dLeft := fun hn => absurd hd hn, dDone := fun hn => by simp [hd] at hn }

-- nothing reads `dDone`: it is only re-established, here and in the `dDone :=` clauses
theorem writerDone (hw : s.writers ≠ 0) {w' : Nat} : WF { s with writers := w' } :=
  { h with dDone := fun hd => (h.dDone hd).imp_right fun h0 => absurd h0 hw }

end WF

theorem wf_step (capW capC : Nat) (s s' : St) (t : Tid) (env : Env) (hwf : WF s)
    (h : step true capW capC s t env = some s') : WF s' := by
  revert h
  fun_cases step true capW capC s t env <;> intro h <;> cases h
  -- reader in `recv`: RecvMsg fails; a STAT; the end marker (walker closed / walkChan gets closed); ERR
  next => exact hwf.cancel nofun
  next hg => exact { hwf with pExit := nofun, updOpen := fun _ => hwf.wEnd.trans (by simpa using hg.2) }
  next => exact hwf.cancel nofun
  next hp _ _ _ =>
    exact { hwf with fExit := fun hf => (hwf.fExit hf).imp_right fun hq => ⟨rfl, hq.2⟩
                     updOpen := fun e => by simp [hp] at e
                     wEnd := rfl }
  next => exact hwf.cancel nofun
  -- reader in `upd`: walker closed; the entry goes into walkChan
  next => exact hwf.cancel nofun
  next hp _ _ =>
    exact { hwf with fExit := fun hf => (hwf.fExit hf).imp_right fun hq => by simp [hwf.updOpen hp] at hq
                     pExit := nofun, updOpen := nofun }
  -- feeder in `wait`: cancelled; takes an entry; walkChan closed and drained
  next hg => exact hwf.fCancel hg.1
  next hf _ _ => exact { hwf with fExit := nofun, c2 := hwf.c2.trans (by simp [hf]) }
  next hq hw _ =>
    exact { hwf with fExit := fun _ => .inr ⟨hw, Nat.eq_zero_of_not_pos hq⟩, c2 := iff_of_true rfl rfl
                     dLeft := fun hd => (hwf.dLeft hd).imp_right fun hq => ⟨rfl, hq.2⟩ }
  -- feeder in `push`: cancelled; hands the entry to the differ
  next hg => exact hwf.fCancel hg.1
  next hf _ _ =>
    exact { hwf with fExit := nofun, c2 := hwf.c2.trans (by simp [hf])
                     dLeft := fun hd => (hwf.dLeft hd).imp_right fun hq => by simp [hwf.c2.mp hq.1] at hf }
  -- differ in `diff`: cancelled; a callback fails; an entry (that needs content / that does not); channel closed and drained
  next hc => exact hwf.dCancel hc
  next => exact hwf.cancel id
  next hd _ _ => exact hwf.consume hd
  next hd _ _ _ _ => exact hwf.consume hd
  next hq hc2 => exact { hwf with dLeft := fun _ => .inr ⟨hc2, Nat.eq_zero_of_not_pos hq⟩, dDone := nofun }
  -- differ in `wait`: cancelled; the writers are done. Differ in `fin`
  next hc => exact hwf.dCancel hc
  next hd _ hw => exact { hwf with dLeft := fun _ => hwf.dLeft (by simp [hd]), dDone := fun _ => .inr hw }
  next hd => exact { hwf with dLeft := fun _ => hwf.dLeft (by simp [hd]), dDone := fun _ => hwf.dDone (.inl hd) }
  -- a writer: REQ fails; cancelled; the data arrived
  next => exact hwf.cancel id
  next hw _ _ => exact hwf.writerDone hw
  next hw _ _ => exact hwf.writerDone hw

/-- `step true` is the repaired receiver. -/
theorem teardown_progress (capW capC : Nat) (hW : 0 < capW) (hC : 0 < capC) (s : St) (hwf : WF s)
    (ht : s.torn = true) (hnd : allDone s = false) :
    ∃ t env, (step true capW capC s t env).isSome = true := by
  cases hp : s.p with
  | recv => exact ⟨.p, .fail, by simp [step, hp, ht]⟩
  | exited =>
    -- the reader left with an error: whoever is still alive sees the cancellation and leaves
    have hc := hwf.pExit hp
    cases hf : s.f with
    | wait | push => exact ⟨.f, .alt, by simp [step, hf, hc]⟩
    | exited =>
      cases hd : s.d with
      | diff | wait | fin => exact ⟨.d, .fail, by simp [step, hd, hc]⟩
      | exited =>
        have hw : s.writers ≠ 0 := by simpa [allDone, hp, hf, hd] using hnd
        exact ⟨.writer, .fail, by simp [step, hw, ht]⟩
  | upd =>
    by_cases hcc : s.closeCh = true
    · exact ⟨.p, .fail, by simp [step, hp, hcc]⟩
    by_cases hroom : s.wq < capW
    · exact ⟨.p, .fail, by simp [step, hp, hcc, hroom]⟩
    -- walkChan full, closeCh open: the feeder is alive (it cannot have left without closing closeCh)
    cases hf : s.f with
    | exited => have := ((hwf.fExit hf).resolve_left hcc).2; omega
    | wait =>
      have hq : s.wq > 0 := by omega
      exact ⟨.f, .alt, by by_cases hc : s.cancelled = true <;> simp [step, hf, hc, hq]⟩
    | push =>
      by_cases hc : s.cancelled = true
      · exact ⟨.f, .alt, by simp [step, hf, hc]⟩
      by_cases hcq : s.cq < capC
      · exact ⟨.f, .fail, by simp [step, hf, hc, hcq]⟩
      -- the differ's channel is full and nothing is cancelled: the differ is in its loop and consumes
      have hd : s.d = .diff := Decidable.by_contra fun hd =>
        (hwf.dLeft hd).elim hc fun h => by simpa [hf] using hwf.c2.mp h.1
      have hq : s.cq > 0 := by omega
      exact ⟨.d, .fail, by simp [step, hd, hc, hq]⟩

theorem step_decreases (fixed : Bool) (capW capC : Nat) (s s' : St) (t : Tid) (env : Env)
    (h : step fixed capW capC s t env = some s') : mu s' < mu s := by
  revert h
  -- The weights: an entry gets lighter at every hop (8 announced, 7 - 1 in the reader's hand, 5 in walkChan, 5 - 1 in the
  -- feeder's hand, 3 in the differ's channel, 2 as a writer), a goroutine at every change of pc.
  fun_cases step fixed capW capC s t env <;> intro h <;> cases h <;> simp +arith only [mu, pW, fW, dW, *]
  -- `case6`: the reader takes the end marker. Its guard says that none was taken before, so the last summand of `mu s` is 1.
  case case6 hg _ => simp [show s.endSent = false by simpa using hg.2]
  all_goals omega

def runTrace (fixed : Bool) (capW capC : Nat) : St → List (Tid × Env) → Option St
  | s, [] => some s
  | s, (t, e) :: rest => match step fixed capW capC s t e with
    | some s' => runTrace fixed capW capC s' rest
    | none => none

-- every constructor of `Tid` and of `Env`, so that `stuck` says "no goroutine can take a step, whatever the environment
-- offers"
def allTids : List Tid := [.p, .f, .d, .writer]
def allEnvs : List Env := [.stat, .endm, .fail, .alt, .req]

def stuck (fixed : Bool) (capW capC : Nat) (s : St) : Bool :=
  allTids.all fun t => allEnvs.all fun e => (step fixed capW capC s t e).isNone

/-- a schedule of the unrepaired receiver: the channels fill up, a callback fails, the feeder sees the cancellation while
handing an entry to the differ and leaves. The feeder reads `Env` only to tell `.alt` from the rest, so `(.f, .stat)` is
"the feeder moves, and does not prefer `ctx.Done`". -/
def badSchedule : List (Tid × Env) :=
  [(.p, .stat), (.p, .stat), (.f, .stat), (.f, .stat), (.p, .stat), (.p, .stat), (.f, .stat), (.p, .stat), (.p, .stat),
   (.d, .fail), (.f, .alt), (.p, .stat)]

/-- After `badSchedule` the reader of the unrepaired receiver is still alive and nothing can ever move again. Teardown is
not a step of the model (it is what the peer or the transport does), so the witness sets `torn` on the state the schedule
ends in. -/
theorem unrepaired_feeder_can_block_forever :
    (match runTrace false 1 1 (init 4) badSchedule with
     | some s => !allDone { s with torn := true } && stuck false 1 1 { s with torn := true }
     | none => false) = true := by
  decide

/-- the same schedule on the repaired receiver does not end in a stuck state -/
theorem repaired_feeder_same_schedule :
    (match runTrace true 1 1 (init 4) badSchedule with
     | some s => !stuck true 1 1 { s with torn := true }
     | none => false) = true := by
  decide

end Fsm.RC
