import FsutilModel.Basic
import FsutilModel.WireLoop
/-! The transcribed decoders never reach the outcome `panic` (an out-of-range index or slice expression), whatever the
input bytes: every read is guarded by the bounds checks of the generated code. The nested `NP_ite` of `skipLoop_np`,
`statField_np` and `packetField_np` follow, arm by arm, the order of the model's dispatch on wire type and field number. -/
namespace Fsm.W

def NP {α : Type} (x : Except Err α) : Prop := x ≠ .error .panic

section
variable {α β : Type}

theorem NP_ok (a : α) : NP (Except.ok a : Except Err α) := nofun
theorem NP_error {e : Err} (h : e ≠ .panic) : NP (Except.error e : Except Err α) := fun he => h (Except.error.inj he)

theorem NP.error_of_eq {x : Except Err α} {e : Err} (hx : NP x) (he : x = .error e) : NP (Except.error e : Except Err β) :=
  NP_error fun hp => hx (hp ▸ he)

theorem NP_bind {x : Except Err α} {f : α → Except Err β} (hx : NP x) (hf : ∀ a, x = .ok a → NP (f a)) : NP (x >>= f) := by
  cases x with
  | error e => exact hx.error_of_eq rfl
  | ok a => exact hf a rfl

theorem NP_ite {c : Prop} [Decidable c] {a b : Except Err α} (ha : NP a) (hb : ¬ c → NP b) :
    NP (if c then a else b) := by
  split
  · exact ha
  · exact hb ‹_›

/-- `if c then throw e; rest` as the do-notation elaborates it -/
theorem NP_guard {c : Prop} [Decidable c] {e : Err} {f : α → Except Err β} {b : Except Err β} (he : e ≠ .panic)
    (hb : ¬ c → NP b) : NP (if c then (throw e : Except Err α) >>= f else b) :=
  NP_ite (NP_error he) hb

end

theorem NP_ite_throw (c : Prop) [Decidable c] (e : Err) (h : e ≠ .panic) :
    NP (if c then (throw e : Except Err PUnit) else pure PUnit.unit) :=
  NP_ite (NP_error h) fun _ => NP_ok _

section
variable {d : Bytes}

theorem readVarLoop_np : ∀ fuel i s acc, NP (readVarLoop d d.size fuel i s acc)
  | 0, _, _, _ => NP_error (by decide)
  | fuel+1, i, s, acc => by
    rw [readVarLoop]
    refine NP_ite (NP_error (by decide)) fun _ => NP_ite (NP_error (by decide)) fun hi => ?_
    rw [Array.getElem?_eq_getElem (Nat.lt_of_not_ge hi)]
    exact NP_ite (NP_ok _) fun _ => readVarLoop_np fuel _ _ _

theorem readVar_np (i : Nat) : NP (readVar d d.size i) := readVarLoop_np _ _ _ _

theorem readLen_np_bind {β : Type} (i : Nat) {f : Nat × Nat → Except Err β}
    (hf : ∀ a b, a ≤ b → b ≤ d.size → NP (f (a, b))) : NP (readLen d d.size i >>= f) := by
  unfold readLen
  rw [bind_assoc]
  refine NP_bind (readVar_np i) fun ⟨len, i1⟩ _ => ?_
  simp only [ite_bind, bind_assoc]
  refine NP_guard (by decide) fun _ => NP_guard (by decide) fun _ => NP_guard (by decide) fun hl => ?_
  exact hf _ _ (Nat.le_add_right _ _) (Nat.le_of_not_gt hl)

theorem skipLoop_np (start : Nat) : ∀ fuel i depth, NP (skipLoop d d.size start fuel i depth)
  | 0, _, _ => NP_error (by decide)
  | fuel+1, i, depth => by
    rw [skipLoop]
    refine NP_ite (NP_error (by decide)) fun _ => ?_
    split
    · next e he => exact (readVar_np i).error_of_eq he
    next wire i1 _ =>
    dsimp only
    split
    · next e he =>
      -- the error arose in the dispatch on the wire type: one line per type 0 to 5, then the illegal ones
      refine NP.error_of_eq ?_ he
      refine
        NP_ite ?varint fun _ =>
        NP_ite (NP_ok _) fun _ =>
        NP_ite ?bytes fun _ =>
        NP_ite (NP_ok _) fun _ =>
        NP_ite (NP_ite (NP_error (by decide)) fun _ => NP_ok _) fun _ =>
        NP_ite (NP_ok _) fun _ => NP_error (by decide)
      case varint =>
        split
        · exact NP_ok _
        · next e he => exact (readVar_np i1).error_of_eq he
      case bytes =>
        split
        · exact NP_ite (NP_error (by decide)) fun _ => NP_ok _
        · next e he => exact (readVar_np i1).error_of_eq he
    · next i2 depth' _ => exact NP_ite (NP_ok _) fun _ => skipLoop_np start fuel i2 depth'

theorem skip_np (start : Nat) : NP (skip d d.size start) := skipLoop_np start _ _ _

theorem sliceC_np {a b : Nat} (h1 : a ≤ b) (h2 : b ≤ d.size) : NP (sliceC d a b) := by
  rw [sliceC, if_pos ⟨h1, h2⟩]; exact NP_ok _

theorem xattrEntryLoop_np (post : Nat) : ∀ fuel i k v, NP (xattrEntryLoop d d.size post fuel i k v)
  | 0, _, _, _ => NP_ok _
  | fuel+1, i, k, v => by
    rw [xattrEntryLoop]
    refine NP_ite (NP_ok _) fun _ => NP_bind (readVar_np i) fun ⟨wire, i1⟩ _ => ?_
    refine NP_ite ?_ fun _ => NP_ite ?_ fun _ => ?_
    · exact readLen_np_bind i1 fun a b hab hbl =>
        NP_bind (sliceC_np hab hbl) fun _ _ => xattrEntryLoop_np post fuel _ _ _
    · exact readLen_np_bind i1 fun a b hab hbl =>
        NP_bind (sliceC_np hab hbl) fun _ _ => xattrEntryLoop_np post fuel _ _ _
    · exact NP_bind (skip_np i) fun sk _ => NP_guard (by decide) fun _ => xattrEntryLoop_np post fuel _ _ _

variable {M : Type}

theorem varintFieldG_np {i1 wt : Nat} {k : Nat → M} : NP (varintFieldG d d.size i1 wt k) :=
  NP_guard (by decide) fun _ => NP_bind (readVar_np i1) fun _ _ => NP_ok _

theorem bytesFieldG_np {i1 wt : Nat} {k : List Nat → M} : NP (bytesFieldG d d.size i1 wt k) :=
  NP_guard (by decide) fun _ => readLen_np_bind i1 fun _ _ hab hbl =>
    NP_bind (sliceC_np hab hbl) fun _ _ => NP_ok _

theorem unknownFieldG_np {pre : Nat} {k : List Nat → M} : NP (unknownFieldG d d.size pre k) :=
  NP_bind (skip_np pre) fun sk _ => NP_guard (by decide) fun h =>
    NP_bind (sliceC_np (Nat.le_add_right pre sk) (Nat.le_of_not_gt h)) fun _ _ => NP_ok _

theorem xattrField_np {i1 wt : Nat} {m : PStat} : NP (xattrField d d.size i1 wt m) :=
  NP_guard (by decide) fun _ => readLen_np_bind i1 fun _ post _ _ =>
    NP_bind (xattrEntryLoop_np post _ _ _ _) fun _ _ => NP_ok _

theorem statField_np (pre i1 wire : Nat) (m : PStat) : NP (statField d d.size pre i1 wire m) :=
  NP_ite (NP_error (by decide)) fun _ =>
  NP_ite (NP_error (by decide)) fun _ =>
  NP_ite (bytesFieldG_np) fun _ =>
  NP_ite (varintFieldG_np) fun _ =>
  NP_ite (varintFieldG_np) fun _ =>
  NP_ite (varintFieldG_np) fun _ =>
  NP_ite (varintFieldG_np) fun _ =>
  NP_ite (varintFieldG_np) fun _ =>
  NP_ite (bytesFieldG_np) fun _ =>
  NP_ite (varintFieldG_np) fun _ =>
  NP_ite (varintFieldG_np) fun _ =>
  NP_ite (xattrField_np) fun _ => unknownFieldG_np

theorem msgLoop_np {field : Bytes → Nat → Nat → Nat → Nat → M → Except Err (Nat × M)}
    (hf : ∀ pre i1 wire m, NP (field d d.size pre i1 wire m)) : ∀ fuel i m, NP (msgLoop field d d.size fuel i m)
  | 0, _, _ => NP_ok _
  | fuel+1, i, m => by
    rw [msgLoop]
    exact NP_ite (NP_ok _) fun _ => NP_bind (readVar_np i) fun _ _ =>
      NP_bind (hf _ _ _ _) fun _ _ => msgLoop_np hf fuel _ _

theorem unmarshalStatLoop_np {fuel i : Nat} {m : PStat} : NP (unmarshalStatLoop d d.size fuel i m) :=
  unmarshalStatLoop_eq ▸ msgLoop_np (statField_np) fuel i m

theorem nestedStatField_np {i1 wt : Nat} {m : PPacket} : NP (nestedStatField d d.size i1 wt m) :=
  NP_guard (by decide) fun _ => readLen_np_bind i1 fun _ _ hab hbl =>
    NP_bind (sliceC_np hab hbl) fun _ _ =>
      NP_bind unmarshalStatLoop_np fun _ _ => NP_ok _

theorem packetField_np (pre i1 wire : Nat) (m : PPacket) : NP (packetField d d.size pre i1 wire m) :=
  NP_ite (NP_error (by decide)) fun _ =>
  NP_ite (NP_error (by decide)) fun _ =>
  NP_ite (varintFieldG_np) fun _ =>
  NP_ite (nestedStatField_np) fun _ =>
  NP_ite (varintFieldG_np) fun _ =>
  NP_ite (bytesFieldG_np) fun _ => unknownFieldG_np

end

theorem unmarshalStat_never_panics (bs : List Nat) : unmarshalStat bs ≠ .error .panic := by
  rw [unmarshalStat, unmarshalStatLoop_eq]
  exact msgLoop_np statField_np _ _ _

theorem unmarshalPacket_never_panics (bs : List Nat) : unmarshalPacket bs ≠ .error .panic := by
  rw [unmarshalPacket, unmarshalPacketLoop_eq]
  exact msgLoop_np packetField_np _ _ _

end Fsm.W
