import FsutilModel.Basic
/-! The STAT branch of `receiver.run` (receive.go) in metadata-only mode, over paths as component lists: under which id a
content request is registered. -/
namespace Fsm.M

abbrev Path := List (List Nat)      -- components

structure E where
  path : Path
  isDir : Bool
  isReg : Bool
  selected : Bool
deriving DecidableEq, Repr

structure St where
  i : Nat := 0
  files : List (Path × Nat) := []
  stack : List E := []               -- top first
  forwarded : List E := []
  listing : List E := []

def metaName : Path := [[46, 102]]   -- stands for ".fsutil-metadata"

def popTo (parent : Path) : List E → List E
  | [] => []
  | t :: rest => if parent = t.path then t :: rest else popTo parent rest

/-- `fixed = false` is unrepaired (F2): the listing name is skipped *before* the counter advances;
    `fixed = true` advances the counter first, as receive.go does.  Only `i` and `files` are the subject of theorems;
    `forwarded` is unrepaired (companion of F6: a selected directory is pushed, then replayed, so forwarded twice; `metaRun` has the repair). -/
def step (fixed : Bool) (s : St) (e : E) : St :=
  if e.path = metaName then (if fixed then { s with i := s.i + 1 } else s)
  else
    let s := { s with listing := s.listing ++ [e] }
    let metaOnly := !e.selected
    let s := if !metaOnly && e.isReg then { s with files := s.files ++ [(e.path, s.i)] } else s
    let s := { s with i := s.i + 1 }
    let st := popTo e.path.dropLast s.stack
    let st := if e.isDir then e :: st else st
    if metaOnly then { s with stack := st }
    else { s with forwarded := s.forwarded ++ st.reverse ++ [e], stack := [] }

def run (fixed : Bool) (es : List E) : St := es.foldl (step fixed) {}

/-- the property: every registered id is the zero-based position of that entry in the stream -/
def idsOK (es : List E) (s : St) : Prop :=
  ∀ p n, (p, n) ∈ s.files → ∃ e, es[n]? = some e ∧ e.path = p

def f (p : Path) : E := ⟨p, false, true, true⟩

/-- F2, kernel-checked: with the listing name in the stream the next file gets the wrong id -/
theorem ids_shifted_witness :
    (run false [f metaName, f [[97]]]).files = [([[97]], 0)] := by decide

theorem ids_fixed_witness :
    (run true [f metaName, f [[97]]]).files = [([[97]], 1)] := by decide

/-- stated for any entry type (`path`: the path of an entry), for this model and for the byte-level one -/
structure IdInv {α P : Type} (path : α → P) (pre : List α) (i : Nat) (files : List (P × Nat)) : Prop where
  count : i = pre.length
  ok : ∀ p n, (p, n) ∈ files → ∃ e, pre[n]? = some e ∧ path e = p

section
variable {α P : Type} {path : α → P}

theorem IdInv.nil : IdInv path [] 0 [] :=
  ⟨rfl, fun _ _ h => nomatch h⟩

theorem IdInv.snoc {pre : List α} {i : Nat} {files : List (P × Nat)} (h : IdInv path pre i files) (e : α) (reg : Bool) :
    IdInv path (pre ++ [e]) (i + 1) (if reg then files ++ [(path e, i)] else files) := by
  refine ⟨by simp [h.count], fun p n hmem => ?_⟩
  have old : ∀ p n, (p, n) ∈ files → ∃ x, (pre ++ [e])[n]? = some x ∧ path x = p := fun p n hm => by
    obtain ⟨x, hx, hp⟩ := h.ok p n hm
    exact ⟨x, by rw [List.getElem?_append_left (List.getElem?_eq_some_iff.mp hx).1, hx], hp⟩
  split at hmem
  · rcases List.mem_append.mp hmem with hm | hm
    · exact old p n hm
    · obtain ⟨rfl, rfl⟩ := Prod.mk.inj (List.mem_singleton.mp hm)
      exact ⟨e, by simp [h.count], rfl⟩
  · exact old p n hmem

theorem IdInv.run {σ : Type} (step : σ → α → σ) (i : σ → Nat) (files : σ → List (P × Nat)) (adv : α → Prop)
    (hstep : ∀ s e, adv e → ∃ reg : Bool,
      i (step s e) = i s + 1 ∧ files (step s e) = if reg then files s ++ [(path e, i s)] else files s) :
    ∀ (es pre : List α) (s : σ), IdInv path pre (i s) (files s) → (∀ e ∈ es, adv e) →
      IdInv path (pre ++ es) (i (es.foldl step s)) (files (es.foldl step s)) := by
  intro es pre s hi h
  refine foldl_prefix_induction (P := fun pre s => IdInv path pre (i s) (files s)) es (fun pre s e he hi => ?_) pre s hi
  obtain ⟨reg, h1, h2⟩ := hstep s e (h e he)
  rw [h1, h2]
  exact hi.snoc e reg

end

theorem step_ids (fixed : Bool) (s : St) (e : E) (hadv : fixed = true ∨ e.path ≠ metaName) :
    ∃ reg : Bool, (step fixed s e).i = s.i + 1 ∧
      (step fixed s e).files = if reg then s.files ++ [(e.path, s.i)] else s.files := by
  unfold step
  by_cases hm : e.path = metaName
  · exact ⟨false, by simp [hm, hadv.resolve_right (not_not_intro hm)]⟩
  · refine ⟨e.selected && e.isReg, ?_⟩
    cases e.selected <;> cases e.isReg <;> simp [hm]

theorem run_idInv (fixed : Bool) (es : List E) (h : ∀ e ∈ es, fixed = true ∨ e.path ≠ metaName) :
    idsOK es (run fixed es) :=
  (IdInv.run (step fixed) (·.i) (·.files) _ (step_ids fixed) es [] {} IdInv.nil h).ok

/-- with the counter repaired (F2): every registered id is the entry's position in the STAT sequence -/
theorem ids_are_stat_indices_fixed (es : List E) : idsOK es (run true es) :=
  run_idInv true es fun _ _ => Or.inl rfl

/-- unrepaired (F2, `fixed = false`): holds when the stream has no entry named like the listing -/
theorem ids_are_stat_indices_partial (es : List E) (h : ∀ e ∈ es, e.path ≠ metaName) :
    idsOK es (run false es) :=
  run_idInv false es fun e he => Or.inr (h e he)

end Fsm.M
