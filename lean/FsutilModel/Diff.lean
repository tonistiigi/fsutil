/-! Two-way diff (doubleWalkDiff) over an abstract path order; the model is the `filter = nil` case of
diff_containerd.go (with a filter, `sameFile` and the `rmdir` decision see the filtered copy). -/
namespace Fsm.D

/-- abstract path algebra: what the diff proof needs -/
structure PathOrd (P : Type) [DecidableEq P] where
  lt : P → P → Bool
  under : P → P → Bool            -- `under d q` : q is a strict descendant of d
  lt_irrefl : ∀ a, lt a a = false
  lt_trans : ∀ a b c, lt a b = true → lt b c = true → lt a c = true
  lt_total : ∀ a b, a = b ∨ lt a b = true ∨ lt b a = true
  under_lt : ∀ d q, under d q = true → lt d q = true
  under_trans : ∀ a b c, under a b = true → under b c = true → under a c = true
  /-- descendants of d are contiguous right after d -/
  interval : ∀ d x y, lt d x = true → lt x y = true → under d y = true → under d x = true

variable {P : Type} [DecidableEq P] {I : Type} [DecidableEq I]

structure Ent (P I : Type) where
  path : P
  isDir : Bool
  id : I              -- the identity tuple (mode, uid, …) as `sameFile` sees it; `same` compares it
deriving DecidableEq

inductive Ev (P I : Type)
  | add (e : Ent P I)
  | modify (e : Ent P I)
  | delete (p : P)

def same (a b : Ent P I) : Bool := a.isDir == b.isDir && a.id == b.id

/-- the merge loop of doubleWalkDiff; `rm` is the `rmdir` variable (none = "");
`fc` ("force") = differ is DiffNone: `sameFile` answers false for every pair -/
def diff (O : PathOrd P) (fc : Bool) : Nat → List (Ent P I) → List (Ent P I) → Option P → List (Ev P I)
  | 0, _, _, _ => []
  | _+1, [], [], _ => []
  | n+1, [], u :: us, _ => .add u :: diff O fc n [] us none
  | n+1, l :: ls, [], rm =>
    match rm with
    | some d => if O.under d l.path then diff O fc n ls [] rm
                else .delete l.path :: diff O fc n ls [] none
    | none => .delete l.path :: diff O fc n ls [] (if l.isDir then some l.path else none)
  | n+1, l :: ls, u :: us, rm =>
    if O.lt l.path u.path then
      match rm with
      | some d => if O.under d l.path then diff O fc n ls (u :: us) rm
                  else .delete l.path :: diff O fc n ls (u :: us) none
      | none => .delete l.path :: diff O fc n ls (u :: us) (if l.isDir then some l.path else none)
    else if O.lt u.path l.path then
      .add u :: diff O fc n (l :: ls) us none
    else
      let rm' := if l.isDir && !u.isDir then some l.path else none
      if !fc && same l u then diff O fc n ls us rm' else .modify u :: diff O fc n ls us rm'

abbrev TMap (P I : Type) := P → Option (Ent P I)

def applyEv (O : PathOrd P) (t : TMap P I) : Ev P I → TMap P I
  | .delete p => fun q => if q = p ∨ O.under p q then none else t q
  | .add e | .modify e => fun q =>
      if q = e.path then some e
      else if O.under e.path q && (match t e.path with | some o => o.isDir != e.isDir | none => false) then none
      else t q

def toMap (l : List (Ent P I)) : TMap P I := fun q => l.find? (·.path = q)

end Fsm.D
