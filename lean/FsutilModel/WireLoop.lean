import FsutilModel.Model.Wire
/-! `(*Stat).UnmarshalVT` and `(*Packet).UnmarshalVT` are one loop around two field decoders. -/
namespace Fsm.W

def msgLoop {M : Type} (field : Bytes → Nat → Nat → Nat → Nat → M → Except Err (Nat × M)) (d : Bytes) (l : Nat) :
    Nat → Nat → M → Except Err M
  | 0, _, m => .ok m
  | fuel+1, i, m =>
    if i ≥ l then .ok m else do
    let (wire, i1) ← readVar d l i
    let (i', m') ← field d l i i1 wire m
    msgLoop field d l fuel i' m'

theorem unmarshalStatLoop_eq : unmarshalStatLoop = msgLoop statField := by
  funext d l fuel
  induction fuel with
  | zero => rfl
  | succ f ih => funext i m; simp only [unmarshalStatLoop, msgLoop, ih]

theorem unmarshalPacketLoop_eq : unmarshalPacketLoop = msgLoop packetField := by
  funext d l fuel
  induction fuel with
  | zero => rfl
  | succ f ih => funext i m; simp only [unmarshalPacketLoop, msgLoop, ih]

end Fsm.W
