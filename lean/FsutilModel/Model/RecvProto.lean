import FsutilModel.Model.SyncB
import FsutilModel.Model.ValidatorB
import FsutilModel.Model.Fixes
/-! Receiver side of the wire protocol (C07) as an abstract LTS used as acceptor of real event logs (its invariant is in
`Lemmas/C07.lean`); and the receiver's admission checks on a hostile packet script (C03). -/
namespace Fsm.R

abbrev Bytes := List Nat

structure St where
  need : List Nat                      -- ids the change computation will want (regular, no link name, added/modified)
  statsRecv : Nat := 0
  endSeen : Bool := false
  reqd : List Nat := []
  termd : List Nat := []
  stored : List (Nat × Bytes) := []    -- bytes written per id, as (id, chunk) history
  finSent : Bool := false

inductive Ev
  | rStat | rEnd
  | sReq (id : Nat)
  | rData (id : Nat) (b : Bytes)
  | rTerm (id : Nat)
  | sFin
deriving Repr

def step (s : St) : Ev → Option St
  | .rStat => if s.endSeen then none else some { s with statsRecv := s.statsRecv + 1 }
  | .rEnd => if s.endSeen then none else some { s with endSeen := true }
  | .sReq id =>
    if id < s.statsRecv ∧ id ∈ s.need ∧ id ∉ s.reqd ∧ s.finSent = false then some { s with reqd := id :: s.reqd } else none
  -- `rData id []` is accepted and is not a terminator; in Go (receive.go, `len(p.Data) == 0`) an empty DATA packet is the
  -- terminator, which is `rTerm` here
  | .rData id b =>
    if id ∈ s.reqd ∧ id ∉ s.termd then some { s with stored := s.stored ++ [(id, b)] } else none
  | .rTerm id =>
    if id ∈ s.reqd ∧ id ∉ s.termd then some { s with termd := id :: s.termd } else none
  | .sFin =>
    if s.endSeen ∧ s.finSent = false ∧ (∀ id ∈ s.need, id ∈ s.termd) then some { s with finSent := true } else none

def run : St → List Ev → Option St
  | s, [] => some s
  | s, e :: es => match step s e with | none => none | some s' => run s' es

/-- bytes stored for an id = concatenation of its chunk history -/
def storedFor (id : Nat) (s : St) : Bytes := (s.stored.filter (·.1 = id)).flatMap (·.2)

/-- payloads delivered for an id in an event list -/
def payloads (id : Nat) : List Ev → Bytes
  | [] => []
  | .rData i b :: es => if i = id then b ++ payloads id es else payloads id es
  | _ :: es => payloads id es

inductive Pkt
  | stat (s : StatE)
  | endStats
  | data (id : Nat) (empty : Bool)
  | fin
  | err
deriving Repr

/-- Hardlinks.HandleChange (kind add) -/
def hardlinkStep (seen : List Path) (s : StatE) : Option (List Path) :=
  if s.isDir || s.isSymlink then some seen
  else if s.linkname ≠ [] then (if seen.contains s.linkname then some seen else none)
  else some (s.path :: seen)

inductive Admit
  | allOk
  | offender (i : Nat) (why : String)
deriving Repr

/-- index of the first packet that must make Receive fail. `requestable`: ids for which a content
request may legitimately be outstanding (DATA for any other id is an offence). The fourth argument (`nstat`) counts the
STATs admitted so far; nothing reads it. -/
def admissionFrom (requestable : Nat → Bool) : List VFrame → List Path → Nat → Nat → List Pkt → Admit
  | _, _, _, _, [] => .allOk
  | vst, seen, nstat, i, p :: ps =>
    match p with
    | .stat s =>
      match vstep Fix.f1 vst false s.path s.isDir with
      | .ok vst' =>
        match hardlinkStep seen s with
        | some seen' => admissionFrom requestable vst' seen' (nstat+1) (i+1) ps
        | none => .offender i "hard link to a path not sent earlier"
      | .reject => .offender i "path not clean/contained, out of order, or parent missing"
      | .panic => .offender i "validator panic"
    | .endStats => admissionFrom requestable vst seen nstat (i+1) ps
    | .data id _ => if requestable id then admissionFrom requestable vst seen nstat (i+1) ps else .offender i "DATA for an id that was not requested"
    | .fin => admissionFrom requestable vst seen nstat (i+1) ps
    | .err => .offender i "ERR packet"

def admission (requestable : Nat → Bool) (ps : List Pkt) : Admit := admissionFrom requestable [] [] 0 0 ps

end Fsm.R
