/-! Wire codec of `types.Stat` / `types.Packet` (generated vtproto code, transcribed) and the
length-prefixed framing of util/protostream.go. Every buffer read goes through `get?` and every slice expression through `sliceC`; an
out-of-range read or slice is the distinguished outcome `panic` (never totalised away). -/
namespace Fsm.W

abbrev Bytes := Array Nat

inductive Err
  | overflow | eof | invalidLength | wrongWireType | illegalTag | endGroup | unexpectedEndGroup | illegalWireType
  | panic
deriving Repr, DecidableEq

def two64 : Nat := 18446744073709551616
def two63 : Nat := 9223372036854775808
def two32 : Nat := 4294967296

/-- Go `int(x)` for a uint64 value -/
def toInt64 (n : Nat) : Int := let m := n % two64; if m < two63 then m else (m : Int) - two64
def ofInt64 (x : Int) : Nat := (x % (two64 : Int)).toNat
/-- Go `int32(x)` -/
def toInt32 (n : Nat) : Int := let m := n % two32; if m < 2147483648 then m else (m : Int) - two32

/-- the varint loop of the generated code: `shift >= 64 → overflow`, `iNdEx >= l → eof`; value is the OR of
`(b & 0x7f) << shift` in 64-bit arithmetic -/
def readVarLoop (d : Bytes) (l : Nat) : Nat → Nat → Nat → Nat → Except Err (Nat × Nat)
  | 0, _, _, _ => .error .overflow
  | fuel+1, i, shift, acc =>
    if shift ≥ 64 then .error .overflow else
    if i ≥ l then .error .eof else
    match d[i]? with
    | none => .error .panic
    | some b =>
      let acc' := (acc ||| (((b &&& 127) <<< shift) % two64))
      if b < 128 then .ok (acc', i+1) else readVarLoop d l fuel (i+1) (shift+7) acc'

/-- returns (value as uint64, new index) -/
def readVar (d : Bytes) (l i : Nat) : Except Err (Nat × Nat) := readVarLoop d l 11 i 0 0

/-- protohelpers.Skip on the slice d[start:] — returns the number of bytes to skip -/
def skipLoop (d : Bytes) (l start : Nat) : Nat → Nat → Nat → Except Err Nat
  | 0, _, _ => .error .eof
  | fuel+1, i, depth =>
    if i ≥ l then .error .eof else   -- "for iNdEx < l" falls through to ErrUnexpectedEOF
    match readVar d l i with
    | .error e => .error e
    | .ok (wire, i1) =>
      let wt := wire % 8
      let next : Except Err (Nat × Nat) :=
        if wt = 0 then
          -- varint: bytes until one < 0x80 (same bounds)
          match readVar d l i1 with
          | .ok (_, i2) => .ok (i2, depth)
          | .error e => .error e
        else if wt = 1 then .ok (i1 + 8, depth)
        else if wt = 2 then
          match readVar d l i1 with
          | .ok (len, i2) =>
            let n := toInt64 len
            if n < 0 then .error .invalidLength else .ok (i2 + n.toNat, depth)
          | .error e => .error e
        else if wt = 3 then .ok (i1, depth + 1)
        else if wt = 4 then (if depth = 0 then .error .unexpectedEndGroup else .ok (i1, depth - 1))
        else if wt = 5 then .ok (i1 + 4, depth)
        else .error .illegalWireType
      match next with
      | .error e => .error e
      | .ok (i2, depth') =>
        if depth' = 0 then .ok (i2 - start) else skipLoop d l start fuel i2 depth'

def skip (d : Bytes) (l start : Nat) : Except Err Nat := skipLoop d l start (l - start + 2) start 0

structure PStat where
  path : List Nat := []
  mode : Nat := 0
  uid : Nat := 0
  gid : Nat := 0
  size : Int := 0
  mtime : Int := 0
  linkname : List Nat := []
  devmajor : Int := 0
  devminor : Int := 0
  xattrs : List (List Nat × List Nat) := []    -- map, insertion order; later key overwrites
  unknown : List Nat := []
deriving Repr, DecidableEq

def slice (d : Bytes) (a b : Nat) : List Nat := (d.extract a b).toList

/-- Go's `dAtA[a:b]`: a slice expression outside `0 ≤ a ≤ b ≤ len` panics -/
def sliceC (d : Bytes) (a b : Nat) : Except Err (List Nat) :=
  if a ≤ b ∧ b ≤ d.size then .ok (slice d a b) else .error .panic

def mapSet (m : List (List Nat × List Nat)) (k v : List Nat) : List (List Nat × List Nat) :=
  if m.any (·.1 = k) then m.map (fun kv => if kv.1 = k then (k, v) else kv) else m ++ [(k, v)]

/-- a length-delimited field: returns (start, end) of the payload -/
def readLen (d : Bytes) (l i : Nat) : Except Err (Nat × Nat) := do
  let (len, i1) ← readVar d l i
  let n := toInt64 len
  if n < 0 then throw .invalidLength
  let post := i1 + n.toNat
  if post ≥ two63 then throw .invalidLength
  if post > l then throw .eof
  return (i1, post)

/-- the map-entry loop of field 10 -/
def xattrEntryLoop (d : Bytes) (l post : Nat) : Nat → Nat → List Nat → List Nat → Except Err (List Nat × List Nat)
  | 0, _, k, v => .ok (k, v)
  | fuel+1, i, k, v =>
    if i ≥ post then .ok (k, v) else do
    let (wire, i1) ← readVar d l i
    let fieldNum := toInt32 (wire / 8)
    if fieldNum = 1 then
      let (a, b) ← readLen d l i1
      let ks ← sliceC d a b
      xattrEntryLoop d l post fuel b ks v
    else if fieldNum = 2 then
      let (a, b) ← readLen d l i1
      let vs ← sliceC d a b
      xattrEntryLoop d l post fuel b k vs
    else
      let sk ← skip d l i
      if i + sk > post then throw .eof
      xattrEntryLoop d l post fuel (i + sk) k v

/-- a varint field of the generated decoder: wire type check, value, continuation index -/
def varintFieldG {M : Type} (d : Bytes) (l i1 wt : Nat) (k : Nat → M) : Except Err (Nat × M) := do
  if wt ≠ 0 then throw .wrongWireType
  let (v, i2) ← readVar d l i1
  return (i2, k v)

/-- a length-delimited field: wire type check, length, bounds checks, payload copied out -/
def bytesFieldG {M : Type} (d : Bytes) (l i1 wt : Nat) (k : List Nat → M) : Except Err (Nat × M) := do
  if wt ≠ 2 then throw .wrongWireType
  let (a, b) ← readLen d l i1
  let s ← sliceC d a b
  return (b, k s)

/-- the `default:` arm: skip the field and keep its bytes as unknown -/
def unknownFieldG {M : Type} (d : Bytes) (l pre : Nat) (k : List Nat → M) : Except Err (Nat × M) := do
  let sk ← skip d l pre
  if pre + sk > l then throw .eof
  let u ← sliceC d pre (pre + sk)
  pure (pre + sk, k u)

/-- field 10 of Stat: one map entry -/
def xattrField (d : Bytes) (l i1 wt : Nat) (m : PStat) : Except Err (Nat × PStat) := do
  if wt ≠ 2 then throw .wrongWireType
  let (a, post) ← readLen d l i1
  let (k, v) ← xattrEntryLoop d l post (post - a + 2) a [] []
  pure (post, { m with xattrs := mapSet m.xattrs k v })

/-- one iteration of `(*Stat).UnmarshalVT` after the tag has been read: dispatch on the field number -/
def statField (d : Bytes) (l pre i1 wire : Nat) (m : PStat) : Except Err (Nat × PStat) :=
  let fieldNum := toInt32 (wire / 8)
  let wt := wire % 8
  if wt = 4 then throw .endGroup
  else if fieldNum ≤ 0 then throw .illegalTag
  else if fieldNum = 1 then bytesFieldG d l i1 wt fun s => { m with path := s }
  else if fieldNum = 2 then varintFieldG d l i1 wt fun v => { m with mode := v % two32 }
  else if fieldNum = 3 then varintFieldG d l i1 wt fun v => { m with uid := v % two32 }
  else if fieldNum = 4 then varintFieldG d l i1 wt fun v => { m with gid := v % two32 }
  else if fieldNum = 5 then varintFieldG d l i1 wt fun v => { m with size := toInt64 v }
  else if fieldNum = 6 then varintFieldG d l i1 wt fun v => { m with mtime := toInt64 v }
  else if fieldNum = 7 then bytesFieldG d l i1 wt fun s => { m with linkname := s }
  else if fieldNum = 8 then varintFieldG d l i1 wt fun v => { m with devmajor := toInt64 v }
  else if fieldNum = 9 then varintFieldG d l i1 wt fun v => { m with devminor := toInt64 v }
  else if fieldNum = 10 then xattrField d l i1 wt m
  else unknownFieldG d l pre fun u => { m with unknown := m.unknown ++ u }

def unmarshalStatLoop (d : Bytes) (l : Nat) : Nat → Nat → PStat → Except Err PStat
  | 0, _, m => .ok m
  | fuel+1, i, m =>
    if i ≥ l then .ok m else do
    let (wire, i1) ← readVar d l i
    let (i', m') ← statField d l i i1 wire m
    unmarshalStatLoop d l fuel i' m'

def unmarshalStat (bs : List Nat) : Except Err PStat :=
  let d := bs.toArray
  unmarshalStatLoop d d.size (d.size + 1) 0 {}

/-! ### encoder -/

def encVarLoop : Nat → Nat → List Nat
  | 0, _ => []
  | fuel+1, n => if n < 128 then [n] else (n % 128 + 128) :: encVarLoop fuel (n / 128)

def encVar (n : Nat) : List Nat := encVarLoop 11 (n % two64)

def encBytesField (tag : Nat) (b : List Nat) : List Nat :=
  if b.isEmpty then [] else tag :: encVar b.length ++ b
def encVarField (tag : Nat) (v : Nat) : List Nat :=
  if v = 0 then [] else tag :: encVar v

def encXattr (kv : List Nat × List Nat) : List Nat :=
  let body := (10 :: encVar kv.1.length ++ kv.1) ++ (18 :: encVar kv.2.length ++ kv.2)
  82 :: encVar body.length ++ body

def marshalStat (s : PStat) : List Nat :=
  encBytesField 10 s.path ++ encVarField 16 s.mode ++ encVarField 24 s.uid ++ encVarField 32 s.gid ++
  encVarField 40 (ofInt64 s.size) ++ encVarField 48 (ofInt64 s.mtime) ++ encBytesField 58 s.linkname ++
  encVarField 64 (ofInt64 s.devmajor) ++ encVarField 72 (ofInt64 s.devminor) ++
  s.xattrs.flatMap encXattr ++ s.unknown

structure PPacket where
  type : Int := 0
  stat : Option PStat := none
  id : Nat := 0
  data : Option (List Nat) := none      -- none = nil slice
  unknown : List Nat := []
deriving Repr, DecidableEq

def marshalPacket (p : PPacket) : List Nat :=
  encVarField 8 (ofInt64 p.type) ++
  (match p.stat with | some s => let b := marshalStat s; 18 :: encVar b.length ++ b | none => []) ++
  encVarField 24 p.id ++ encBytesField 34 (p.data.getD []) ++ p.unknown

/-- field 2 of Packet: the nested Stat message, decoded from a copy of its bytes into the existing (or a fresh) Stat -/
def nestedStatField (d : Bytes) (l i1 wt : Nat) (m : PPacket) : Except Err (Nat × PPacket) := do
  if wt ≠ 2 then throw .wrongWireType
  let (a, b) ← readLen d l i1
  let subl ← sliceC d a b
  let sub := subl.toArray
  let st ← unmarshalStatLoop sub sub.size (sub.size + 1) 0 (m.stat.getD {})
  pure (b, { m with stat := some st })

/-- one iteration of `(*Packet).UnmarshalVT` after the tag has been read -/
def packetField (d : Bytes) (l pre i1 wire : Nat) (m : PPacket) : Except Err (Nat × PPacket) :=
  let fieldNum := toInt32 (wire / 8)
  let wt := wire % 8
  if wt = 4 then throw .endGroup
  else if fieldNum ≤ 0 then throw .illegalTag
  else if fieldNum = 1 then varintFieldG d l i1 wt fun v => { m with type := toInt32 v }
  else if fieldNum = 2 then nestedStatField d l i1 wt m
  else if fieldNum = 3 then varintFieldG d l i1 wt fun v => { m with id := v % two32 }
  else if fieldNum = 4 then bytesFieldG d l i1 wt fun dt => { m with data := some dt }
  else unknownFieldG d l pre fun u => { m with unknown := m.unknown ++ u }

def unmarshalPacketLoop (d : Bytes) (l : Nat) : Nat → Nat → PPacket → Except Err PPacket
  | 0, _, m => .ok m
  | fuel+1, i, m =>
    if i ≥ l then .ok m else do
    let (wire, i1) ← readVar d l i
    let (i', m') ← packetField d l i i1 wire m
    unmarshalPacketLoop d l fuel i' m'

def unmarshalPacket (bs : List Nat) : Except Err PPacket :=
  let d := bs.toArray
  unmarshalPacketLoop d d.size (d.size + 1) 0 {}

/-! ### framing (util/protostream.go) -/

def be32 (n : Nat) : List Nat := [(n / 16777216) % 256, (n / 65536) % 256, (n / 256) % 256, n % 256]
def ofBe32 : List Nat → Nat
  | [a, b, c, d] => a * 16777216 + b * 65536 + c * 256 + d
  | _ => 0

def frame (msg : List Nat) : List Nat := be32 msg.length ++ msg
def sendAll (msgs : List (List Nat)) : List Nat := msgs.flatMap frame

/-- read all frames from a byte stream (what a sequence of RecvMsg calls sees, whatever the
fragmentation: `io.ReadFull` hides it); `none` = truncated stream -/
def recvAll : Nat → List Nat → Option (List (List Nat))
  | 0, _ => some []
  | fuel+1, bs =>
    if bs.isEmpty then some [] else
    if bs.length < 4 then none else
    let n := ofBe32 (bs.take 4)
    let rest := bs.drop 4
    if rest.length < n then none else
    match recvAll fuel (rest.drop n) with
    | some more => some (rest.take n :: more)
    | none => none

end Fsm.W
