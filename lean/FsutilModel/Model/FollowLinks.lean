import FsutilModel.Model.Fixes
import FsutilModel.Model.Pattern
/-! `FollowLinks` (followlinks.go), transcribed over a flat listing, `dedupePaths`, and the reference
resolver of C18 ("as if the tree root were /"). -/
namespace Fsm.FL
open P

structure Ent where
  path : Path
  isDir : Bool
  link : Option Path      -- symlink target
deriving Repr

def findE (l : List Ent) (p : Path) : Option Ent := l.find? (·.path = p)

/-- statFile: `none` = not found / root -/
def statFile (l : List Ent) (p : Path) : Option Ent :=
  let r := clean p
  if r = [47] ∨ r = [dot] then none else findE l r

/-- width in bytes of the first UTF-8 sequence of `s` as Go decodes it (an invalid byte has width 1) -/
def firstWidth : List Nat → Nat
  | [] => 0
  | b :: rest =>
    let cont (x : Nat) := 128 ≤ x ∧ x < 192
    if b < 128 then 1
    else if 194 ≤ b ∧ b < 224 then (match rest with | c1 :: _ => if cont c1 then 2 else 1 | [] => 1)
    else if 224 ≤ b ∧ b < 240 then
      (match rest with
       | c1 :: c2 :: _ =>
         let lo := if b = 224 then 160 else 128
         let hi := if b = 237 then 159 else 191
         if lo ≤ c1 ∧ c1 ≤ hi ∧ cont c2 then 3 else 1
       | _ => 1)
    else if 240 ≤ b ∧ b < 245 then
      (match rest with
       | c1 :: c2 :: c3 :: _ =>
         let lo := if b = 240 then 144 else 128
         let hi := if b = 244 then 143 else 191
         if lo ≤ c1 ∧ c1 ≤ hi ∧ cont c2 ∧ cont c3 then 4 else 1
       | _ => 1)
    else 1

/-- tokens of a filepath.Match pattern: literal BYTES, `?` and classes consume one rune, `*` any bytes but the separator -/
def fnTokens : Nat → List Nat → List Tok → Option (List Tok)
  | 0, _, acc => some acc.reverse
  | _, [], acc => some acc.reverse
  | fuel+1, ch :: rest, acc =>
    if ch = 42 then fnTokens fuel rest (Tok.starNoSep :: acc)
    else if ch = 63 then fnTokens fuel rest (Tok.anyNoSep :: acc)
    else if ch = 92 then (match rest with | c :: r => fnTokens fuel r (Tok.lit c :: acc) | [] => none)
    else if ch = 91 then
      let (neg, body) := match rest with | 94 :: r => (true, r) | _ => (false, rest)
      match parseClass (body.length + 1) body neg [] with
      | some (n, rs, rest1) => fnTokens fuel rest1 (Tok.cls n rs :: acc)
      | none => none
    else fnTokens fuel rest (Tok.lit ch :: acc)

/-- match of the token list against the BYTES of the name -/
def fnRun : Nat → List Tok → List Nat → Bool
  | 0, _, _ => false
  | _, [], s => s.isEmpty
  | fuel+1, t :: ts, s =>
    match t with
    | .lit c => (match s with | x :: r => x = c && fnRun fuel ts r | [] => false)
    | .anyNoSep | .cls _ _ =>
      (match s with
       | [] => false
       | x :: _ =>
         let w := firstWidth s
         let rune := (runes (s.take w)).headD 65533
         let okc := match t with | .cls n rs => clsMatch n rs rune | _ => true
         x ≠ 47 && okc && fnRun fuel ts (s.drop w))
    | .starNoSep =>
      fnRun fuel ts s || (match s with | x :: r => x ≠ 47 && fnRun fuel (t :: ts) r | [] => false)
    | _ => false

def fnMatch (pat name : Path) : Bool :=
  match fnTokens (pat.length + 1) pat [] with
  | some toks => fnRun ((name.length + 2) * (toks.length + 2) * 4 + 16) toks name
  | none => false

/-- containsWildcards -/
def containsWildcards : List Nat → Bool
  | [] => false
  | 92 :: _ :: rest => containsWildcards rest
  | 92 :: [] => false
  | c :: rest => c = 42 || c = 63 || c = 91 || containsWildcards rest

def childrenOfDir (l : List Ent) (d : Path) : Option (List Ent) :=
  -- readDir: the directory must exist (or be the root)
  let r := clean d
  let isRoot := r = [47] ∨ r = [dot]
  if isRoot then some (l.filter fun e => parentOf e.path = [])
  else match findE l r with
    | some e => if e.isDir then some (l.filter fun x => parentOf x.path = r) else none
    | none => none

def symTarget (p : Path) (e : Ent) : Option (List Path) :=
  match e.link with
  | none => none
  | some ln =>
    let link := clean ln
    if isAbs link then some [link] else some [joinB [[47], joinB [dirB p, link]]]

/-- readSymlink -/
def readSymlink (l : List Ent) (p : Path) (allowWildcard : Bool) : Option (List Path) :=
  let base := baseB p
  if allowWildcard && containsWildcards base then
    match childrenOfDir l (dirB p) with
    | none => none
    | some kids =>
      let outs := kids.filterMap fun f =>
        if fnMatch base (baseB f.path) then
          (match statFile l (joinB [dirB p, baseB f.path]) with
           | some e => symTarget (joinB [dirB p, baseB f.path]) e
           | none => none)
        else none
      let flat := outs.flatten
      if flat.isEmpty then none else some flat
  else
    match statFile l p with
    | some e => symTarget p e
    | none => none

/-- split at the first separator -/
def splitFirst (p : Path) : Path × Path :=
  let rec go : List Nat → List Nat → Path × Path
    | acc, [] => (acc.reverse, [])
    | acc, c :: rest => if c = 47 then (acc.reverse, rest) else go (c :: acc) rest
  go [] p

/-- symlinkResolver.append; `fuel` bounds the recursion (the `resolved` set is the real variant) -/
def appendLoop (l : List Ent) : Nat → List Path → Path → Path → List Path
  | 0, resolved, _, _ => resolved
  | fuel+1, resolved, current0, p =>
    let (first, rest) := splitFirst p
    let current := joinB [current0, first]
    let targets := readSymlink l current true
    let p' := rest
    if (p' = [] ∨ targets.isSome) ∧ resolved.contains current then resolved
    else match targets with
      | some ts =>
        ts.foldl (fun res t => appendLoop l fuel res [dot] (joinB [[dot], joinB [t, p']])) (current :: resolved)
      | none =>
        if p' = [] then current :: resolved
        else appendLoop l fuel resolved current p'

/-- variant of `append` whose memo is keyed by (link, remainder) instead of the link alone (isolates F19: with the memo
keyed by the link only, a second traversal of a link - by a later request or by the same one - returns before the final
location is recorded) -/
def appendLoopK (l : List Ent) : Nat → List (Path × Path) × List Path → Path → Path → List (Path × Path) × List Path
  | 0, acc, _, _ => acc
  | fuel+1, (memo, resolved), current0, p =>
    let (first, rest) := splitFirst p
    let current := joinB [current0, first]
    let targets := readSymlink l current true
    let p' := rest
    if (p' = [] ∨ targets.isSome) ∧ memo.contains (current, p') then (memo, resolved)
    else match targets with
      | some ts =>
        ts.foldl (fun acc t => appendLoopK l fuel acc [dot] (joinB [[dot], joinB [t, p']])) ((current, p') :: memo, current :: resolved)
      | none =>
        if p' = [] then ((current, p') :: memo, current :: resolved)
        else appendLoopK l fuel (memo, resolved) current p'

/-- variant of `append` that treats the components contributed by a LINK TARGET literally (isolates F32: `append` hands every
component to `readSymlink` with `allowWildcard = true`, so a name with `*`, `?` or `[` that is reached through a link target is
matched as a pattern against its directory and the link behind it is not followed). `lit` = number of leading components of
`p` that came from a link target; `keyed` = memo keyed by (link, remainder) as in `appendLoopK`. -/
def appendLoopG (l : List Ent) (keyed : Bool) : Nat → List (Path × Path) × List Path → Path → Path → Nat → List (Path × Path) × List Path
  | 0, acc, _, _, _ => acc
  | fuel+1, (memo, resolved), current0, p, lit =>
    let (first, rest) := splitFirst p
    let current := joinB [current0, first]
    let targets := readSymlink l current (lit = 0)
    let p' := rest
    let key := if keyed then (current, p') else (current, [])
    if (p' = [] ∨ targets.isSome) ∧ memo.contains key then (memo, resolved)
    else match targets with
      | some ts =>
        ts.foldl (fun acc t =>
          let np := joinB [[dot], joinB [t, p']]
          let tl := ((comps (joinB [[dot], t])).filter (fun c => c ≠ [] ∧ c ≠ [dot])).length
          appendLoopG l keyed fuel acc [dot] np tl) (key :: memo, current :: resolved)
      | none =>
        if p' = [] then (key :: memo, current :: resolved)
        else appendLoopG l keyed fuel (memo, resolved) current p' (lit - 1)

def lexLtBytes (a b : Path) : Bool := strLt a b

def insertSortedB (x : Path) : List Path → List Path
  | [] => [x]
  | y :: ys => if lexLtBytes x y then x :: y :: ys else if x = y then y :: ys else y :: insertSortedB x ys

def sortBytes (l : List Path) : List Path := l.foldl (fun acc x => insertSortedB x acc) []

/-- dedupePaths; `fixed` = compare with every kept element, not only the previous one (F4) -/
def dedupePaths (fixed : Bool) (l : List Path) : Option (List Path) :=
  let rec go : List Path → Path → List Path → Option (List Path)
    | [], _, out => some out.reverse
    | s :: rest, last, out =>
      if s = [dot] then none
      else if fixed then
        (if out.any fun o => (o ++ [47]).isPrefixOf s then go rest last out else go rest s (s :: out))
      else if (last ++ [47]).isPrefixOf s then go rest last out
      else go rest s (s :: out)
  go l [] []

/-- the request as `append` first normalises it (`fixed18`: clamped at the root) -/
def normReq (fixed18 : Bool) (p : Path) : Path :=
  if fixed18 then joinB [[dot], joinB [[47], p]] else joinB [[dot], p]

def followLinks (fixed : Bool) (l : List Ent) (paths : List Path) (fuel : Nat) : Option (List Path) :=
  let resolved := paths.foldl (fun res p => appendLoop l fuel res [dot] (normReq Fix.f18 p)) []
  dedupePaths fixed (sortBytes resolved)

/-- variant: every request resolved with a fresh memo (isolates the cross-request effect of the memo, F19) -/
def followLinksSeparately (fixed : Bool) (l : List Ent) (paths : List Path) (fuel : Nat) : Option (List Path) :=
  let resolved := paths.flatMap fun p => appendLoop l fuel [] [dot] (normReq Fix.f18 p)
  dedupePaths fixed (sortBytes resolved)

/-- variant: memo keyed by (link, remainder) -/
def followLinksKeyed (fixed : Bool) (l : List Ent) (paths : List Path) (fuel : Nat) : Option (List Path) :=
  let r := paths.foldl (fun acc p => appendLoopK l fuel acc [dot] (normReq Fix.f18 p)) ([], [])
  dedupePaths fixed (sortBytes r.2)

/-- variants with literal link-target components (F32), memo shared / fresh per request / keyed -/
def followLinksLit (fixed : Bool) (l : List Ent) (paths : List Path) (fuel : Nat) (keyed sep : Bool) : Option (List Path) :=
  let resolved :=
    if sep then paths.flatMap fun p => (appendLoopG l keyed fuel ([], []) [dot] (normReq Fix.f18 p) 0).2
    else (paths.foldl (fun acc p => appendLoopG l keyed fuel acc [dot] (normReq Fix.f18 p) 0) ([], [])).2
  dedupePaths fixed (sortBytes resolved)

/-- is there a symlink whose resolution text (its directory joined with its target) has a component with a metacharacter? -/
def metaLink (l : List Ent) : Bool :=
  l.any fun e => match symTarget e.path e with
    | some ts => ts.any fun t => (comps t).any containsWildcards
    | none => false

/-- has the (cleaned) request a wildcard in a component that is not the last one? -/
def middleWildcard (p : Path) : Bool :=
  let cs := (comps (clean (([47] : Path) ++ p))).filter (· ≠ [])
  (cs.dropLast).any containsWildcards

/-! ## reference resolver -/

/-- resolve `p` from the root following symlinks chroot-style; returns (links traversed, final location or none when the
resolution does not end). `final = some []` means the root. A link may legitimately be crossed several times with different
remainders (`c/c` with `c -> /`); the resolution is cyclic exactly when a (link, remainder) state recurs, and unbounded
growth of the remainder (`l -> l/x`) is given up after 255 crossings (or runs out of fuel): both give `none`. -/
def resolveLoop (l : List Ent) : Nat → List (Path × List Path) → List Path → List Path → List Path → List Path × Option (List Path)
  | 0, _, seen, _, _ => (seen, none)
  | _, _, seen, cur, [] => (seen, some cur)
  | fuel+1, st, seen, cur, c :: rest =>
    if c = [] ∨ c = [dot] then resolveLoop l fuel st seen cur rest
    else if c = dd then resolveLoop l fuel st seen cur.dropLast rest
    else
      let next := cur ++ [c]
      match findE l (joinSep next) with
      | some e =>
        match e.link with
        | some ln =>
          -- (more than 255 link crossings: given up, as the kernel (40) and continuity's RootPath (255) do; a remainder that
          -- grows with every crossing - `l -> l/x` - otherwise makes the states ever longer)
          if st.contains (joinSep next, rest) || decide (255 ≤ st.length) then (seen, none)
          else
            let tcs := comps ln
            let seen' := if seen.contains (joinSep next) then seen else joinSep next :: seen
            if isAbs ln then resolveLoop l fuel ((joinSep next, rest) :: st) seen' [] (tcs ++ rest)
            else resolveLoop l fuel ((joinSep next, rest) :: st) seen' cur (tcs ++ rest)
        | none => resolveLoop l fuel st seen next rest
      | none => resolveLoop l fuel st seen next rest

/-- links traversed and the final location (as a path relative to the root; `some []` = the root itself) -/
def resolve (l : List Ent) (p : Path) : List Path × Option Path :=
  let r := resolveLoop l (4 * (l.length + 2) * (p.length + 4) + 64) [] [] [] (comps p)
  (r.1, r.2.map joinSep)

/-- does result element `r` (possibly a wildcard pattern, matched component by component) name `x` or an ancestor of `x`? -/
def coversOne (r x : Path) : Bool :=
  r = x || (r ++ [47]).isPrefixOf x ||
  (containsWildcards r &&
    let rc := comps r
    let xc := comps x
    rc.length ≤ xc.length && (List.zip rc xc).all fun (a, b) => a = b || fnMatch a b)

def covered (result : List Path) (x : Path) : Bool := result.any (coversOne · x)

/-- expansions of a request whose components may contain wildcards: a wildcard component is matched against the names in
the directory that the textual prefix DENOTES (links in the prefix are crossed first); the expansion stays a textual path -/
def expandReq (l : List Ent) : Nat → Path → List Path → List Path
  | 0, cur, _ => [cur]
  | _, cur, [] => [cur]
  | fuel+1, cur, c :: rest =>
    if containsWildcards c then
      match (resolve l cur).2 with
      | none => []
      | some dir =>
        let kids := l.filter fun e => e.path ≠ [] && parentOf e.path = dir
        (kids.filter fun k => fnMatch c (baseB k.path)).flatMap fun k =>
          expandReq l fuel (if cur = [] then baseB k.path else cur ++ [47] ++ baseB k.path) rest
    else expandReq l fuel (if cur = [] then c else cur ++ [47] ++ c) rest

structure SpecV where
  ok : Bool
  why : String

def specFollow (l : List Ent) (paths : List Path) (result : Option (List Path)) : SpecV := Id.run do
  let res := result.getD []
  -- sorted, no element inside another
  let rec sorted : List Path → Bool
    | a :: b :: r => lexLtBytes a b && sorted (b :: r)
    | _ => true
  if !sorted res then return ⟨false, "result not sorted"⟩
  for a in res do
    for b in res do
      if (a ++ [47]).isPrefixOf b then return ⟨false, "an element of the result is inside another"⟩
  let reqsOf (p : Path) : List Path :=
    let pc := clean (([47] : Path) ++ p)      -- as if the tree root were '/'
    let cs := (comps pc).filter (· ≠ [])
    if cs.any containsWildcards then expandReq l (cs.length + 1) [] cs else [joinSep cs]
  let all := paths.flatMap reqsOf
  let rootReached := all.any fun q => (resolve l q).2 = some []
  if rootReached then
    if !res.isEmpty then return ⟨false, "the root is reached but the result is not empty"⟩
    return ⟨true, ""⟩
  for q in all do
    let (links, fin) := resolve l q
    for k in links do
      if !covered res k then return ⟨false, "a traversed symlink is not covered by the result"⟩
    match fin with
    | some f =>
      if !covered res f then return ⟨false, "the final location is not covered by the result"⟩
    | none => pure ()
  return ⟨true, ""⟩

end Fsm.FL
