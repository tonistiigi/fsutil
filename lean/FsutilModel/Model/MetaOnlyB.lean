import FsutilModel.Model.SyncB
import FsutilModel.Model.Fixes
/-! Metadata-only receive (receive.go STAT branch + buffer.go), byte level: which ids are registered,
what is forwarded to the disk writer, what the listing file contains. -/
namespace Fsm

def metaNameB : Path := [46, 102, 115, 117, 116, 105, 108, 45, 109, 101, 116, 97, 100, 97, 116, 97]  -- ".fsutil-metadata"

structure MetaRes where
  files : List (Path × Nat)        -- path ↦ id registered for a content request
  forwarded : List StatE           -- what is handed to the change computation, in order
  listing : List StatE             -- what is framed into the listing buffer, in order
deriving Repr

structure MetaSt where
  i : Nat := 0
  files : List (Path × Nat) := []
  stack : List StatE := []         -- top first
  forwarded : List StatE := []
  listing : List StatE := []

def popToB (parent : Path) : List StatE → List StatE
  | [] => []
  | t :: rest => if parent = t.path then t :: rest else popToB parent rest

/-- one STAT in metadata-only mode (`fixed` = F2 repaired: the counter advances for the listing name too) -/
def metaStep (fixed : Bool) (selected : Path → Bool) (s : MetaSt) (e : StatE) : MetaSt :=
  if e.path = metaNameB then (if fixed then { s with i := s.i + 1 } else s)
  else
    let s := { s with listing := s.listing ++ [e] }
    let metaOnly := !selected e.path
    let s := if !metaOnly && e.canRequestData then { s with files := s.files ++ [(e.path, s.i)] } else s
    let s := { s with i := s.i + 1 }
    let st0 := popToB (dirB e.path) s.stack
    let st := if e.isDir then e :: st0 else st0
    if metaOnly then { s with stack := st }
    else if Fix.f6b then { s with forwarded := s.forwarded ++ st0.reverse ++ [e], stack := [] }
    else { s with forwarded := s.forwarded ++ st.reverse ++ [e], stack := [] }

def metaRun (fixed : Bool) (selected : Path → Bool) (es : List StatE) : MetaRes :=
  let s := es.foldl (metaStep fixed selected) {}
  ⟨s.files, s.forwarded, s.listing⟩

/-- consecutive duplicates (a selected directory is forwarded twice in a row) collapse for the tree -/
def dedupAdj : List StatE → List StatE
  | [] => []
  | [x] => [x]
  | x :: y :: rest => if x.path = y.path then dedupAdj (y :: rest) else x :: dedupAdj (y :: rest)

/-! reference: selected entries plus the ancestors they need, in stream order, each once -/
def specForwarded (selected : Path → Bool) (es : List StatE) : List StatE :=
  let es' := es.filter (·.path ≠ metaNameB)
  es'.filter fun e => selected e.path || (e.isDir && es'.any fun d => selected d.path && underB e.path d.path)

end Fsm
