import FsutilModel.Sender
/-! Acceptor for the sender side of the wire protocol (C06): replays a boundary-event log of a real
`Send` run through the abstract sender LTS `Fsm.S` (whose invariant is proved in `Sender.lean`) and
checks the remaining clauses of the property (FIN echo, failure on bad ids, completion). -/
namespace Fsm.SP
open S

/-- boundary events at the sender's end of the stream, in the order they happened -/
inductive LEv
  | sStat                 -- SendMsg(STAT with stat)
  | sEnd                  -- SendMsg(STAT without stat)
  | rReq (id : Nat)       -- RecvMsg delivered REQ id
  | sData (id n : Nat)    -- SendMsg(DATA id, n bytes), n > 0
  | sTerm (id : Nat)      -- SendMsg(DATA id, empty)
  | rFin                  -- RecvMsg delivered FIN
  | sFin                  -- SendMsg(FIN)
  | sErr                  -- SendMsg(ERR)
  | ret (ok : Bool)       -- Send returned
deriving Repr

structure Acc where
  s : S.St
  finRecv : Bool := false
  finSent : Bool := false
  returned : Option Bool := none
  reqs : List Nat := []

structure Verdict where
  ok : Bool
  at_ : Nat
  why : String

/-- open the file first if the id is merely queued (the `Open` call is not a stream event) -/
def ensureOpen (s : S.St) (id : Nat) : S.St :=
  match s.phase id with
  | .queued => (S.step s (.open_ id)).getD s
  | _ => s

def accStep (a : Acc) : LEv → Except String Acc
  | .ret ok =>
    if a.returned.isSome then .error "returned twice" else
    if ok then
      if !(a.finRecv && a.finSent) then .error "success without FIN exchange"
      else if a.s.failed then .error "success although an invalid id was requested"
      else if a.reqs.any (fun id => a.s.phase id != .finished) then .error "success although a requested file was not sent completely"
      else .ok { a with returned := some true }
    else .ok { a with returned := some false }
  | e =>
  -- once an invalid request arrived the call is failing: what its other threads still send until they
  -- notice the cancellation is not constrained by the property
  if a.s.failed then .ok a else
  match e with
  | .ret _ => .ok a
  | .sStat => match S.step a.s .sendStat with
    | some s' => .ok { a with s := s' }
    | none => .error "STAT beyond the view / after failure"
  | .sEnd => match S.step a.s .sendEnd with
    | some s' => .ok { a with s := s' }
    | none => .error "end marker out of place (before the last STAT, or twice)"
  | .rReq id => match S.step a.s (.recvReq id) with
    | some s' => .ok { a with s := s', reqs := a.reqs ++ [id] }
    | none => .error "REQ not enabled"
  | .sData id n =>
    let s1 := ensureOpen a.s id
    match S.step s1 (.data id n) with
    | some s' => .ok { a with s := s' }
    | none => .error s!"DATA for id {id} not enabled (not requested, not a regular entry, beyond the file, or after the terminator)"
  | .sTerm id =>
    let s1 := ensureOpen a.s id
    match S.step s1 (.term id) with
    | some s' => .ok { a with s := s' }
    | none => .error s!"terminator for id {id} not enabled (file incomplete, second terminator, or not requested)"
  | .rFin => .ok { a with finRecv := true }
  | .sFin => if a.finRecv && !a.finSent then .ok { a with finSent := true } else .error "FIN sent without / twice after a received FIN"
  | .sErr => .ok a

def accRun (a : Acc) (i : Nat) : List LEv → Verdict × Acc
  | [] => (⟨true, i, ""⟩, a)
  | e :: es => match accStep a e with
    | .ok a' => accRun a' (i+1) es
    | .error w => (⟨false, i, w⟩, a)

/-- `view`: per STAT index (regular?, size).  `expectFail`: the request script contains an id that is
unknown, not a regular file, or a duplicate. -/
def accept (view : List (Bool × Nat)) (log : List LEv) : Verdict :=
  let v := view.map fun (r, n) => (r, List.replicate n 0)
  let (vd, a) := accRun { s := S.init v } 0 log
  if !vd.ok then vd else
  match a.returned with
  | none => ⟨false, log.length, "Send did not return"⟩
  | some true => ⟨true, log.length, ""⟩
  | some false =>
    -- an error return is conforming only if the receiver misbehaved (bad request)
    if a.s.failed then ⟨true, log.length, ""⟩ else ⟨false, log.length, "Send failed against a conforming receiver"⟩

end Fsm.SP
