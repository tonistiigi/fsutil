import FsutilModel.Model.PathFn
/-! moby/patternmatcher as fsutil uses it, for the declared pattern fragment
(literals, `*`, `?`, `**`, simple character classes, `\`-escaped metacharacters, `!` negation):
the translation to a regular expression incl. the exact/prefix/suffix shortcuts, matching on runes,
`MatchesOrParentMatches` and `MatchesUsingParentResults`. -/
namespace Fsm.P

/-- Go's UTF-8 decoding of a byte string into runes (an invalid byte is one rune U+FFFD) -/
def decodeRunes : Nat → List Nat → List Nat
  | 0, _ => []
  | _, [] => []
  | fuel+1, b :: rest =>
    let cont (x : Nat) := 128 ≤ x ∧ x < 192
    if b < 128 then b :: decodeRunes fuel rest
    else if 194 ≤ b ∧ b < 224 then
      match rest with
      | c1 :: r => if cont c1 then ((b - 192) * 64 + (c1 - 128)) :: decodeRunes fuel r else 65533 :: decodeRunes fuel rest
      | [] => [65533]
    else if 224 ≤ b ∧ b < 240 then
      match rest with
      | c1 :: c2 :: r =>
        let lo := if b = 224 then 160 else 128
        let hi := if b = 237 then 159 else 191
        if lo ≤ c1 ∧ c1 ≤ hi ∧ cont c2 then ((b - 224) * 4096 + (c1 - 128) * 64 + (c2 - 128)) :: decodeRunes fuel r
        else 65533 :: decodeRunes fuel rest
      | _ => 65533 :: decodeRunes fuel rest
    else if 240 ≤ b ∧ b < 245 then
      match rest with
      | c1 :: c2 :: c3 :: r =>
        let lo := if b = 240 then 144 else 128
        let hi := if b = 244 then 143 else 191
        if lo ≤ c1 ∧ c1 ≤ hi ∧ cont c2 ∧ cont c3 then
          ((b - 240) * 262144 + (c1 - 128) * 4096 + (c2 - 128) * 64 + (c3 - 128)) :: decodeRunes fuel r
        else 65533 :: decodeRunes fuel rest
      | _ => 65533 :: decodeRunes fuel rest
    else 65533 :: decodeRunes fuel rest

def runes (s : List Nat) : List Nat := decodeRunes (s.length + 1) s

inductive Tok
  | lit (c : Nat)                 -- one rune
  | anyNoSep                      -- `?`  → [^/]
  | starNoSep                     -- `*`  → [^/]*
  | dstarSlash                    -- `**/`, `**x` → (.*/)?
  | dotStar                       -- trailing `**` → .*
  | cls (neg : Bool) (ranges : List (Nat × Nat))
deriving Repr, DecidableEq

inductive MT | exact | prefix_ | suffix_ | regexp
deriving Repr, DecidableEq

structure Pat where
  neg : Bool
  text : List Nat          -- cleanedPattern (bytes), without '!'
  mt : MT
  toks : List Tok
deriving Repr

/-- parse a character class body after '[' (runes); returns (neg, ranges, rest after ']') -/
def parseClass : Nat → List Nat → Bool → List (Nat × Nat) → Option (Bool × List (Nat × Nat) × List Nat)
  | 0, _, _, _ => none
  | _, [], _, _ => none
  | fuel+1, c :: rest, neg, acc =>
    if c = 93 ∧ !acc.isEmpty then some (neg, acc.reverse, rest)   -- ']'
    else
      match rest with
      | 45 :: hi :: rest' => if hi ≠ 93 then parseClass fuel rest' neg ((c, hi) :: acc) else parseClass fuel rest neg ((c, c) :: acc)
      | _ => parseClass fuel rest neg ((c, c) :: acc)

/-- Pattern.compile, on the runes of the cleaned pattern -/
def compileLoop : Nat → Nat → List Nat → MT → List Tok → Option (MT × List Tok)
  | 0, _, _, mt, acc => some (mt, acc.reverse)
  | _, _, [], mt, acc => some (mt, acc.reverse)
  | fuel+1, i, ch :: rest, mt, acc =>
    if ch = 42 then   -- '*'
      match rest with
      | 42 :: rest1 =>
        let rest2 := match rest1 with | 47 :: r => r | _ => rest1
        let (mt1, acc1) :=
          if rest2.isEmpty then
            (if mt = .exact then (MT.prefix_, acc) else (MT.regexp, Tok.dotStar :: acc))
          else (MT.regexp, Tok.dstarSlash :: acc)
        let mt2 := if i = 0 then MT.suffix_ else mt1
        compileLoop fuel (i+1) rest2 mt2 acc1
      | _ => compileLoop fuel (i+1) rest .regexp (Tok.starNoSep :: acc)
    else if ch = 63 then compileLoop fuel (i+1) rest .regexp (Tok.anyNoSep :: acc)
    else if ch = 92 then   -- backslash: escape next
      match rest with
      | c :: rest1 => compileLoop fuel (i+1) rest1 .regexp (Tok.lit c :: acc)
      | [] => compileLoop fuel (i+1) [] mt (Tok.lit 92 :: acc)
    else if ch = 91 then   -- '['
      let (neg, body) := match rest with | 94 :: r => (true, r) | _ => (false, rest)
      match parseClass (body.length + 1) body neg [] with
      | some (n, rs, rest1) => compileLoop fuel (i+1) rest1 .regexp (Tok.cls n rs :: acc)
      | none => none
    else if ch = 93 then none
    else compileLoop fuel (i+1) rest mt (Tok.lit ch :: acc)

def isSpace (b : Nat) : Bool := b = 32 || b = 9 || b = 10 || b = 11 || b = 12 || b = 13 || b = 133 || b = 160

def trimSpace (s : List Nat) : List Nat :=
  ((s.dropWhile isSpace).reverse.dropWhile isSpace).reverse

/-- patternmatcher.New for one pattern string; `none` = skipped (empty) -/
def parsePattern (s : List Nat) : Option Pat :=
  let p := trimSpace s
  if p.isEmpty then none else
  let p := clean p
  let (neg, p) := match p with | 33 :: r => (true, r) | _ => (false, p)
  let rs := runes p
  match compileLoop (rs.length + 1) 0 rs .exact [] with
  | some (mt, toks) => some ⟨neg, p, mt, toks⟩
  | none => some ⟨neg, p, .exact, []⟩

/-- patternmatcher.New rejects the whole list when a pattern is, after trimming and cleaning, a lone `!` -/
def illegalBang (s : List Nat) : Bool :=
  let p := trimSpace s
  !p.isEmpty && clean p == [33]

def parsePatterns (ss : List (List Nat)) : List Pat := ss.filterMap parsePattern

def clsMatch (neg : Bool) (rs : List (Nat × Nat)) (c : Nat) : Bool :=
  let inside := rs.any fun (lo, hi) => lo ≤ c && c ≤ hi
  if neg then !inside else inside

/-- anchored regexp match of the token list against a rune list (backtracking; fuel bounds the search) -/
def reMatch : Nat → List Tok → List Nat → Bool
  | 0, _, _ => false
  | _, [], s => s.isEmpty
  | fuel+1, t :: ts, s =>
    match t with
    | .lit c => (match s with | x :: r => x = c && reMatch fuel ts r | [] => false)
    | .anyNoSep => (match s with | x :: r => x ≠ 47 && reMatch fuel ts r | [] => false)
    | .cls n rs => (match s with | x :: r => clsMatch n rs x && reMatch fuel ts r | [] => false)
    | .starNoSep =>
      reMatch fuel ts s || (match s with | x :: r => x ≠ 47 && reMatch fuel (t :: ts) r | [] => false)
    | .dotStar =>
      reMatch fuel ts s || (match s with | x :: r => x ≠ 10 && reMatch fuel (t :: ts) r | [] => false)
    | .dstarSlash =>
      -- (.*/)? : nothing, or any prefix (without newline) that ends in '/'
      reMatch fuel ts s ||
      (let rec tryFrom : Nat → List Nat → Bool
        | 0, _ => false
        | _, [] => false
        | f+1, x :: r => (x = 47 && reMatch fuel ts r) || (x ≠ 10 && tryFrom f r)
       tryFrom (s.length + 1) s)

def isSuffixOf (suf s : List Nat) : Bool := suf.reverse.isPrefixOf s.reverse

/-- Pattern.match -/
def patMatch (p : Pat) (path : List Nat) : Bool :=
  match p.mt with
  | .exact => path = p.text
  | .prefix_ => (p.text.take (p.text.length - 2)).isPrefixOf path
  | .suffix_ =>
    let suffix := p.text.drop 2
    isSuffixOf suffix path || (suffix.head? = some 47 && path = suffix.drop 1)
  | .regexp =>
    let rs := runes path
    reMatch ((rs.length + 2) * (p.toks.length + 2) * 4 + 16) p.toks rs

/-- prefixes "a", "a/b", … of the parent directory of `path` -/
def parentPrefixes (path : List Nat) : List (List Nat) :=
  let d := dirB path
  if d = [dot] then [] else
  let cs := comps d
  (List.range cs.length).map fun i => joinSep (cs.take (i+1))

/-- MatchesOrParentMatches -/
def matchesOrParent (ps : List Pat) (path : List Nat) : Bool :=
  ps.foldl (fun matched p =>
    if p.neg != matched then matched else
    let m := patMatch p path || (parentPrefixes path).any (patMatch p)
    if m then !p.neg else matched) false

/-- MatchesUsingParentResults: returns (matched, matchInfo); `parent = []` is the zero MatchInfo -/
def matchesUPR (ps : List Pat) (path : List Nat) (parent : List Bool) : Bool × List Bool :=
  let rec go : List Pat → List Bool → Bool → List Bool → Bool × List Bool
    | [], _, matched, acc => (matched, acc.reverse)
    | p :: rest, par, matched, acc =>
      let pm := match par with | b :: _ => b | [] => false
      let par' := par.drop 1
      if pm then go rest par' (!p.neg) (true :: acc)
      else if p.neg != matched then go rest par' matched (false :: acc)
      else
        let m := patMatch p path || (parent.isEmpty && (parentPrefixes path).any (patMatch p))
        go rest par' (if m then !p.neg else matched) (m :: acc)
  go ps parent false []

end Fsm.P
