import FsutilModel.Path
namespace Fsm

/-! `strLt` and `compsLt` are the lexicographic order `<` of core on `List Nat` and on `List (List Nat)`;
their order properties are those of `List.lt`. -/

theorem strLt_iff {a b : Path} : strLt a b = true ↔ a < b := by
  induction a generalizing b with
  | nil => cases b <;> simp [strLt]
  | cons x a ih =>
    cases b with
    | nil => simp [strLt]
    | cons y b =>
      rw [strLt, List.cons_lt_cons_iff]
      by_cases h : x = y
      · simp [h, ih]
      · simp [h]

theorem compsLt_iff {a b : List Path} : compsLt a b = true ↔ a < b := by
  induction a generalizing b with
  | nil => cases b <;> simp [compsLt]
  | cons x a ih =>
    cases b with
    | nil => simp [compsLt]
    | cons y b =>
      rw [compsLt, List.cons_lt_cons_iff]
      by_cases h : x = y
      · simp [h, ih, List.lt_irrefl]
      · simp [h, strLt_iff]

theorem strLt_nil_left {b : Path} (hb : b ≠ []) : strLt [] b = true := by
  cases b with
  | nil => exact absurd rfl hb
  | cons a t => rfl

theorem strLt_irrefl (a : Path) : strLt a a = false := by
  simpa using mt strLt_iff.mp (List.lt_irrefl a)

theorem strLt_trans {a b c : Path} (h1 : strLt a b = true) (h2 : strLt b c = true) : strLt a c = true :=
  strLt_iff.mpr (List.lt_trans (strLt_iff.mp h1) (strLt_iff.mp h2))

theorem strLt_asymm {a b : Path} (h : strLt a b = true) : strLt b a = false := by
  simpa using mt strLt_iff.mp (List.lt_asymm (strLt_iff.mp h))

theorem strLt_total (a b : Path) : a = b ∨ strLt a b = true ∨ strLt b a = true := by
  simp only [strLt_iff]
  rcases Std.lt_trichotomy a b with h | h | h
  · exact .inr (.inl h)
  · exact .inl h
  · exact .inr (.inr h)

theorem strLt_of_sep_prefix (s b : Path) (h : (s ++ [sep]) <+: b) : strLt s b = true := by
  obtain ⟨t, rfl⟩ := h
  exact strLt_iff.mpr (by simpa using List.append_left_lt (l₁ := s) (List.nil_lt_cons sep t))

theorem compsLt_cons (c d : Path) (cs ds : List Path) :
    compsLt (c :: cs) (d :: ds) = true ↔ if c = d then compsLt cs ds = true else strLt c d = true := by
  rw [compsLt]; split <;> rfl

theorem compsLt_irrefl (a : List Path) : compsLt a a = false := by
  simpa using mt compsLt_iff.mp (List.lt_irrefl a)

theorem compsLt_trans {a b c : List Path} (h1 : compsLt a b = true) (h2 : compsLt b c = true) :
    compsLt a c = true :=
  compsLt_iff.mpr (List.lt_trans (compsLt_iff.mp h1) (compsLt_iff.mp h2))

theorem compsLt_asymm {a b : List Path} (h : compsLt a b = true) : compsLt b a = false := by
  simpa using mt compsLt_iff.mp (List.lt_asymm (compsLt_iff.mp h))

theorem compsLt_prefix (a : List Path) (x : Path) (t : List Path) : compsLt a (a ++ x :: t) = true :=
  compsLt_iff.mpr (by simpa using List.append_left_lt (l₁ := a) (List.nil_lt_cons x t))

theorem compsLt_append_singleton (d : List Path) (c b : Path) (u : List Path) :
    compsLt (d ++ c :: u) (d ++ [b]) = true ↔ strLt c b = true := by
  simp only [compsLt_iff, strLt_iff]
  induction d with
  | nil => simp [List.cons_lt_cons_iff]
  | cons x d ih => simpa using ih

theorem compsLt_between (d l t : List Path)
    (h1 : d = l ∨ compsLt d l = true) (h2 : compsLt l (d ++ t) = true) : d <+: l := by
  induction d generalizing l with
  | nil => exact List.nil_prefix
  | cons x d ih =>
    cases l with
    | nil => rcases h1 with h1 | h1 <;> simp [compsLt] at h1
    | cons y l =>
      by_cases hxy : x = y
      · subst hxy
        simp only [List.cons.injEq, true_and, List.cons_append, compsLt, if_true] at h1 h2
        exact List.cons_prefix_cons.mpr ⟨rfl, ih l h1 h2⟩
      · rcases h1 with h1 | h1
        · exact absurd (List.cons.inj h1).1 hxy
        · simp only [List.cons_append, compsLt, hxy, Ne.symm hxy, if_false] at h1 h2
          rw [strLt_asymm h1] at h2; cases h2

/-- between a directory and a new child of it there are only paths below that directory -/
theorem prefix_of_between (d l : List Path) (b : Path)
    (h1 : d = l ∨ compsLt d l = true) (h2 : compsLt l (d ++ [b]) = true) : d <+: l :=
  compsLt_between d l [b] h1 h2

end Fsm
