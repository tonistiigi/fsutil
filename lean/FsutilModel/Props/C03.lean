import FsutilModel.Props.C12
import FsutilModel.Lemmas.C03Anc
import FsutilModel.Lemmas.C03Link
/-! # C03 — Receiver containment -/
namespace Fsm.C03

/-- A path that passes the (repaired) lexical test of the validator consists of plain components only:
non-empty, separator-free, neither "." nor "..". Joined below the destination it therefore names a
strict descendant of the destination, lexically. -/
theorem accepted_path_is_plain (p : Path) (h : isCleanRel true p) :
    ∃ cs, PlainList cs ∧ p = joinSep cs :=
  (isCleanRel_iff_plain p).mp h

/-- The hard-link admission check only lets a link through whose name is an earlier admitted
non-directory, non-symlink entry without link name. -/
theorem link_source_was_sent (seen seen' : List Path) (s : StatE) (h : R.hardlinkStep seen s = some seen')
    (hl : s.linkname ≠ []) (hd : s.isDir = false) (hs : s.isSymlink = false) : s.linkname ∈ seen :=
  C03L.link_mem h hd hs hl

/-- F1 witness: the unrepaired model (`fixed = false`) accepts STAT ".." -/
theorem dotdot_was_accepted : vrun false [⟨false, dd, true⟩] = .accept := C12.validator_accepts_dotdot_unrepaired

/-- No component of an accepted path is of the peer's making, except as a directory: in a sequence the repaired
validator accepts (verbatim `HandleChange`, every length, any byte strings), every ancestor path of every entry - its parent,
the parent's parent, … up to the top level - was announced EARLIER in the same sequence as a directory (and not deleted).
`C03A.Anc q p`: `q` is reached from `p` by iterating `filepath.Dir`. -/
theorem every_component_is_an_announced_directory (cs : List Chg) (h : vrun true cs = .accept)
    (pre : List Chg) (x : Chg) (post : List Chg) (hs : cs = pre ++ x :: post) (q : Path) (hq : C03A.Anc q x.path) :
    ∃ y ∈ pre, y.path = q ∧ y.isDir = true ∧ y.isDel = false :=
  C03A.ancestors_announced cs h pre x post hs q hq

/-- An accepted sequence announces no path twice (it is strictly ascending), so the directory that
`every_component_is_an_announced_directory` finds is the only entry the peer ever announced at that path: a stream cannot first
announce `a/` and `a/b` and then turn `a` into a symlink. -/
theorem nothing_is_announced_twice (cs : List Chg) (h : vrun true cs = .accept)
    (pre : List Chg) (x : Chg) (post : List Chg) (hs : cs = pre ++ x :: post) : ∀ y ∈ pre, y.path ≠ x.path :=
  C03A.announced_once cs h pre x post hs

/-- the premises of `every_component_is_an_announced_directory` are met by `a/`, `a/b/`, `a/b/c`, and `a` is an ancestor of
`a/b/c` in the sense of its statement -/
example : vrun true [⟨false, [97], true⟩, ⟨false, [97, 47, 98], true⟩, ⟨false, [97, 47, 98, 47, 99], false⟩] = .accept ∧
    C03A.Anc [97] [97, 47, 98, 47, 99] :=
  ⟨by decide, .up _ _ (by decide) (.parent [97, 47, 98] (by decide))⟩

/-- the validator rejects the sequence that puts an entry below a symlink (a non-directory) it announced -/
example : vrun true [⟨false, [97], false⟩, ⟨false, [97, 47, 98], false⟩] = .rejectAt 1 := by decide

/-- Hard links over a whole stream: if the hard-link check lets a stream pass (`C03L.hlRun`: `Hardlinks.HandleChange` applied to
every STAT in order), every hard-link entry of the stream names an entry that was announced STRICTLY EARLIER as a plain file - not a
directory, not a symlink, itself without a link name. An entry that names itself, a later entry, a symlink or another link does not pass. -/
theorem hard_link_names_an_earlier_plain_file (es : List StatE) (r : List Path) (h : C03L.hlRun [] es = some r)
    (pre : List StatE) (s : StatE) (post : List StatE) (hsp : es = pre ++ s :: post)
    (hd : s.isDir = false) (hs : s.isSymlink = false) (hl : s.linkname ≠ []) :
    ∃ y ∈ pre, y.path = s.linkname ∧ C03L.Plain y := by
  simpa using C03L.link_source_strictly_earlier es [] [] r (by simp) h pre s post hsp hd hs hl

/-- a file followed by a link to it passes; an entry that names itself does not (kernel-checked) -/
example :
    let f (p l : Path) : StatE := ⟨p, 420, 0, 0, 0, 0, l, 0, 0, []⟩
    (C03L.hlRun [] [f [97] [], f [98] [97]]).isSome = true ∧ C03L.hlRun [] [f [97] [97]] = none ∧
      C03L.hlRun [] [f [97] [98], f [98] []] = none := by
  decide

end Fsm.C03
