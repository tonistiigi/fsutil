import FsutilModel.Lemmas.C16Walk
/-! # C16 — include/exclude selection: nothing else is written -/
namespace Fsm.C16
open C

/-- An entry that the include/exclude lists do not select has no effect of its own on the destination:
no directory is created for it, nothing is written, nothing is notified (it can only come into being
later, on demand, as the ancestor of a selected entry). For every tree, state and pattern lists. -/
theorem not_selected_no_effect (a : Args) (srcSub : List Snap) (srcRel dstFinal : Path) (s : St) (e : Snap)
    (h : included a (if e.st.path = srcRel then [] else e.st.path.drop (if srcRel = [] then 0 else srcRel.length + 1)) = false) :
    ∃ s', copyEntry a srcSub srcRel dstFinal s e = .ok s' ∧ s'.tree = s.tree ∧ s'.notif = s.notif := by
  refine ⟨s, ?_, rfl, rfl⟩
  unfold copyEntry
  simp only [h, Bool.not_false, if_true]

/-- the copied source itself (relative path "") is always selected -/
theorem root_always_selected (a : Args) : included a [] = true := by
  simp [included]

/-! ## The copier and the filtered walk decide alike

`copy.go` threads `patternmatcher.MatchInfo` down its own recursion (`C.included`, which recomputes the parent-result
chain along the ancestors of an entry); `filter.go` keeps the infos on its directory stack. The two are compared step by
step: whenever the stack is topped by the chain infos of the entry's ancestors, the callback of `filterFS.Walk` (pruning
off, no map function) reports the entry exactly when the copier selects it — and what it pushes re-establishes that
premise for the entries below. -/

/-- the copier's selection is the chain verdict (for every pattern list and path below the copied source) -/
theorem copier_selection_is_chain (a : C.Args) (rel : Path) (h : rel ≠ []) :
    C.included a rel = C16L.selected a.inc a.exc rel :=
  C16L.included_eq_selected a rel h

/-- **one step of the filtered walk = the copier's decision**, for every configuration, stack and entry -/
theorem walk_step_decides_as_copier (cfg : F.Cfg) (hp : cfg.prune = false) (hm : cfg.map = []) (pd0 : List F.VDir) (e : StatE)
    (a : C.Args) (hai : a.inc = cfg.inc) (hae : a.exc = cfg.exc) (hne : e.path ≠ [])
    (hsk : ∀ d ∈ C16L.stackFor cfg pd0 e, d.skipFn = false)
    (hinc : (((C16L.stackFor cfg pd0 e).getLast?).map (·.inc)).getD [] = C16L.chainInfo cfg.inc (P.parentPrefixes e.path))
    (hexc : (((C16L.stackFor cfg pd0 e).getLast?).map (·.exc)).getD [] = C16L.chainInfo cfg.exc (P.parentPrefixes e.path)) :
    (F.callback true cfg pd0 e).2.2 = .cont ∧
    ((F.callback true cfg pd0 e).2.1.getLast? = some e ↔ C.included a e.path = true) ∧
    (C.included a e.path = false → (F.callback true cfg pd0 e).2.1 = []) := by
  rw [C16L.included_eq_selected a e.path hne, hai, hae, C16L.callback_full cfg hp hm pd0 e hsk hinc hexc]
  cases C16L.selected cfg.inc cfg.exc e.path <;> simp

/-- the premise is re-established for the entries directly below a directory -/
theorem walk_step_keeps_premise (cfg : F.Cfg) (hp : cfg.prune = false) (hm : cfg.map = []) (pd0 : List F.VDir) (e : StatE)
    (hsk : ∀ d ∈ C16L.stackFor cfg pd0 e, d.skipFn = false)
    (hinc : (((C16L.stackFor cfg pd0 e).getLast?).map (·.inc)).getD [] = C16L.chainInfo cfg.inc (P.parentPrefixes e.path))
    (hexc : (((C16L.stackFor cfg pd0 e).getLast?).map (·.exc)).getD [] = C16L.chainInfo cfg.exc (P.parentPrefixes e.path))
    (hd : e.isDir = true) (hf : (!cfg.inc.isEmpty || !cfg.exc.isEmpty) = true) :
    ∃ d, (F.callback true cfg pd0 e).1.getLast? = some d ∧ d.skipFn = false ∧ d.pathSep = e.path ++ [47] ∧
      d.inc = C16L.chainInfo cfg.inc (P.parentPrefixes e.path ++ [e.path]) ∧
      d.exc = C16L.chainInfo cfg.exc (P.parentPrefixes e.path ++ [e.path]) := by
  rw [C16L.callback_full cfg hp hm pd0 e hsk hinc hexc]
  simp only [hf, hd, Bool.and_self, if_true]
  exact ⟨_, List.getLast?_concat, rfl, rfl, rfl, rfl⟩

/-- the premise holds at the top level with the empty stack (non-vacuity: the first entry of every walk) -/
example (cfg : F.Cfg) (e : StatE) (h : P.parentPrefixes e.path = []) :
    (((C16L.stackFor cfg [] e).getLast?).map (·.inc)).getD [] = C16L.chainInfo cfg.inc (P.parentPrefixes e.path) := by
  rw [h, C16L.stackFor_nil]
  rfl

/-! ## The whole walk

`C16W.Canon l`: the listing is canonical with respect to the walk's own ancestor test `x/ ⊑ y` — whatever tests as an
ancestor is a directory listed earlier, the parent prefixes of an entry are those of its nearest ancestor plus that
ancestor, the order is depth first, no entry is repeated. `C16W.canonB` is its executable form; the driver evaluates it
on every listing a real walk produced in the correspondence runs (suite `filter`), so the premise is checked on the code's
own output, not assumed. -/

/-- **The set of copied paths equals the set the filtered walk reports**: for every canonical listing and every pattern
lists (at least one non-empty; pruning off, no map function) the filtered walk reports exactly the entries the copier
selects and the directories that have a selected entry below them (the ancestors the copier creates on demand). -/
theorem filtered_walk_reports_copier_selection (cfg : F.Cfg) (hp : cfg.prune = false) (hm : cfg.map = [])
    (hf : (!cfg.inc.isEmpty || !cfg.exc.isEmpty) = true) (l : List StatE) (hC : C16W.Canon l)
    (a : C.Args) (hai : a.inc = cfg.inc) (hae : a.exc = cfg.exc) (hne : ∀ e ∈ l, e.path ≠ []) :
    ∀ e, e ∈ F.filterWalk true cfg l ↔
      e ∈ l ∧ (C.included a e.path = true ∨
        (e.isDir = true ∧ ∃ d ∈ l, C16W.anc e.path d.path = true ∧ C.included a d.path = true)) := by
  intro e
  rw [C16W.filterWalk_eq cfg hp hm hf l hC, List.mem_filter]
  refine and_congr_right fun he => ?_
  rw [Pend.keep_congr (sel' := C.included a)
    (fun x hx => by rw [C16L.included_eq_selected a x.path (hne x hx), hai, hae]) e he, Pend.keep_iff, C16W.anc_eq]
  exact or_congr_right (and_congr_right fun _ => exists_congr fun d => and_congr_right fun _ => and_comm)

/-- the executable canonicity check is sound -/
theorem canonical_check_sound (l : List StatE) (h : C16W.canonB l = true) : C16W.Canon l :=
  C16W.canonB_sound l h

/-- without pattern lists the walk reports the listing itself -/
theorem walk_without_patterns (cfg : F.Cfg) (hm : cfg.map = []) (hi : cfg.inc = []) (hx : cfg.exc = []) (l : List StatE) :
    F.filterWalk true cfg l = l := by
  simpa [F.filterWalk] using C16W.walkLoop_nopatterns cfg hm hi hx l []

end Fsm.C16
