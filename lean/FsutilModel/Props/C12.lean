import FsutilModel.ValidatorSim
/-! # C12 — Stream validator accepts exactly ordered, parent-closed, contained sequences -/
namespace Fsm.C12

theorem cmp_irrefl (p : Path) : ¬ comparePath p p < 0 :=
  Fsm.cmp_irrefl p

theorem cmp_trans (p q r : Path) (h1 : comparePath p q < 0) (h2 : comparePath q r < 0) :
    comparePath p r < 0 :=
  Fsm.cmp_trans h1 h2

theorem cmp_total (p q : Path) : p = q ∨ comparePath p q < 0 ∨ comparePath q p < 0 :=
  Fsm.cmp_total p q

theorem cmp_asymm (p q : Path) (h : comparePath p q < 0) : ¬ comparePath q p < 0 :=
  Fsm.cmp_asymm h

/-- The order equals comparing component by component: on paths given by their component lists
(separator-free components) `ComparePath` is the lexicographic order on the lists, each component
compared bytewise. -/
theorem cmp_eq_componentwise (a b : List Path) (ha : AllSepFree a) (hb : AllSepFree b)
    (hane : a ≠ []) (hbne : b ≠ []) :
    comparePath (joinSep a) (joinSep b) < 0 ↔ compsLt a b = true :=
  cmp_joinSep a b ha hb hane hbne

/-- Component-level validator = specification, for every sequence of plain paths (unbounded length):
accepted iff strictly ascending and each parent is an earlier directory (or the root). -/
theorem validator_iff_spec_components (xs : List Ent) (hx : ∀ x ∈ xs, PlainPath x.path) :
    runFrom [⟨[], []⟩] xs = true ↔ validFrom [] xs :=
  Fsm.validator_iff_spec xs hx

/-- The repaired lexical test admits exactly the paths whose components are plain
(non-empty, separator-free, neither "." nor ".."). -/
theorem lexical_test_iff_plain (p : Path) :
    isCleanRel true p ↔ ∃ cs, PlainList cs ∧ p = joinSep cs :=
  isCleanRel_iff_plain p

/-- C12 at byte level, unbounded: the verbatim transcription of `Validator.HandleChange` — lexical tests on the byte
string, `filepath.Dir` / `filepath.Base`, the `sort.Search` binary search over `parentDirs`, the last-child comparison —
returns, for EVERY sequence of changes (any length, any byte strings as paths, adds and deletes), exactly what the
property's specification returns: accept, or reject at the same index. -/
theorem validator_eq_spec (cs : List Chg) : vrun true cs = specRun cs :=
  vrun_eq_specRun cs

/-- The slice expressions and index computations of `HandleChange` (repaired) never go out of range, on any sequence of
changes: the specification it agrees with has no such outcome. -/
theorem validator_never_panics (cs : List Chg) (i : Nat) : vrun true cs ≠ .panicAt i := by
  rw [validator_eq_spec]
  exact specRunFrom_ne_panic i cs [] 0

/-- F1 witness: the unrepaired lexical test (`fixed = false`) lets ".." through. -/
theorem dotdot_passes_unrepaired : isCleanRel false dd := dotdot_passes_today

/-- F1 witness on the executable byte-level model, unrepaired (`fixed = false`): STAT ".." is accepted. -/
theorem validator_accepts_dotdot_unrepaired :
    vrun false [⟨false, dd, true⟩] = .accept := by decide

/-- The repaired model (`fixed = true`) rejects STAT ".." at index 0. -/
theorem validator_rejects_dotdot_repaired :
    vrun true [⟨false, dd, true⟩] = .rejectAt 0 := by decide

/-- non-vacuity: a concrete 3-element sequence is accepted by the byte-level model and the spec -/
example : vrun true [⟨false, [97], true⟩, ⟨false, [97, 47, 98], false⟩, ⟨false, [97, 45, 98], false⟩] = .accept
        ∧ specRun [⟨false, [97], true⟩, ⟨false, [97, 47, 98], false⟩, ⟨false, [97, 45, 98], false⟩] = .accept := by
  decide

end Fsm.C12
