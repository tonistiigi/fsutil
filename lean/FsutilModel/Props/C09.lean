import FsutilModel.WalkBuild
/-! # C09 — Walk lists every entry once, parents first, in protocol path order -/
namespace Fsm.C09

/-- The depth-first pre-order walk of any tree whose directories list their children in bytewise name
order (what `os.ReadDir` yields) is strictly ascending in the protocol's `ComparePath` — for every
tree, every depth, every name alphabet (names non-empty and separator-free). -/
theorem walk_strictly_ascending (t : Node) (h : WF t) :
    (walk [] t).Pairwise (fun a b => comparePath a b < 0) :=
  walk_ascending [] t h

/-- the same below any prefix (walking a sub-target / a composite file system's sub-root) -/
theorem walk_strictly_ascending_below (pre : Path) (t : Node) (h : WF t) :
    (walk pre t).Pairwise (fun a b => comparePath a b < 0) :=
  walk_ascending pre t h

/-- each directory is reported before its contents: everything the walk reports below a
(non-root) prefix lies strictly under that prefix, and the prefix sorts before all of it -/
theorem dir_before_contents (pre : Path) (hp : pre ≠ []) (t : Node) (h : WF t) (x : Path)
    (hx : x ∈ walk pre t) : ∃ r, x = pre ++ sep :: r ∧ comparePath pre x < 0 := by
  obtain ⟨r, hr⟩ := walk_under pre hp t h x hx
  exact ⟨r, hr, by rw [hr]; exact cmp_parent_lt pre r⟩

/-- For the tree the executable model walks (`walkOrder` is `walk [] (buildTree paths)`, filtered for a sub-target): whatever
set of entries a snapshot contains (paths whose components are non-empty and separator-free), the order in which `fs.Walk`
visits them — the pre-order walk of the tree built from those paths — is strictly ascending in the protocol's path comparison. -/
theorem walk_order_ascending (paths : List Path) (h : ∀ p ∈ paths, ∀ c ∈ comps p, NameOK c) :
    (walk [] (buildTree paths)).Pairwise (fun a b => comparePath a b < 0) :=
  walk_ascending [] (buildTree paths) (buildTree_WF paths h)

/-- Every entry is listed once: the walk of any well-formed tree, below any prefix, has no repeated
path (a strictly ascending sequence has none, since `ComparePath` is irreflexive). -/
theorem walk_lists_each_entry_once (pre : Path) (t : Node) (h : WF t) : (walk pre t).Nodup := by
  refine (walk_ascending pre t h).imp ?_
  rintro a _ hlt rfl
  exact cmp_irrefl a hlt

/-- the same for the tree the executable model walks (built from a snapshot's path set) -/
theorem walk_order_lists_once (paths : List Path) (h : ∀ p ∈ paths, ∀ c ∈ comps p, NameOK c) :
    (walk [] (buildTree paths)).Nodup :=
  walk_lists_each_entry_once [] _ (buildTree_WF paths h)

/-- Every entry is listed: whatever set of paths a snapshot contains (any number, any depth, given in any
order, with or without their parents), each of them is visited by the walk of the tree built from
them. Together with `walk_order_lists_once` and `walk_order_ascending`: each exactly once, in protocol order. -/
theorem walk_lists_every_entry (paths : List Path) (h : ∀ p ∈ paths, ∀ c ∈ comps p, NameOK c) (x : Path)
    (hx : x ∈ paths) : x ∈ walk [] (buildTree paths) := by
  have := pathsAlong_last (comps x) (comps_ne_nil x) (fun c hc => (h x hx c hc).1) []
  rw [joinP_nil, joinSep_comps] at this
  exact (mem_walk_buildTree paths x).mpr ⟨x, hx, this⟩

/-- Nothing is invented: everything the walk of the tree built from a snapshot lists is a path of the
snapshot or a directory above one (`p = x/…`). With `walk_lists_every_entry`: for a parent-closed
snapshot the walk lists exactly its paths. -/
theorem walk_lists_only_entries (paths : List Path) (h : ∀ p ∈ paths, ∀ c ∈ comps p, NameOK c) (x : Path)
    (hx : x ∈ walk [] (buildTree paths)) : ∃ p ∈ paths, x = p ∨ ∃ r, p = x ++ sep :: r := by
  obtain ⟨p, hp, hxp⟩ := (mem_walk_buildTree paths x).mp hx
  have := pathsAlong_above (comps p) (fun c hc => (h p hp c hc).1) [] x hxp
  rw [joinP_nil, joinSep_comps] at this
  exact ⟨p, hp, this⟩

/-- Hence, for a parent-closed snapshot (what a directory tree on disk is), the walk lists exactly the
snapshot's paths: `x` is visited iff `x` is an entry. -/
theorem walk_lists_exactly_the_entries (paths : List Path) (h : ∀ p ∈ paths, ∀ c ∈ comps p, NameOK c)
    (hclosed : ∀ p ∈ paths, ∀ x r, p = x ++ sep :: r → x ∈ paths) (x : Path) :
    x ∈ walk [] (buildTree paths) ↔ x ∈ paths := by
  constructor
  · intro hx
    obtain ⟨p, hp, hxp | ⟨r, hr⟩⟩ := walk_lists_only_entries paths h x hx
    · exact hxp ▸ hp
    · exact hclosed p hp x r hr
  · exact walk_lists_every_entry paths h x

/-- non-vacuity: the tree a/{b}, "a b", "a-b" is well-formed and walks as a, a/b, a b, a-b -/
example : walk [] (.dir [([97], .dir [([98], .file)]), ([97, 32, 98], .file), ([97, 45, 98], .file)])
    = [[97], [97, 47, 98], [97, 32, 98], [97, 45, 98]] := by decide

end Fsm.C09
