import FsutilModel.Lemmas.C18
import FsutilModel.Lemmas.C18Fuel
/-! # C18 — FollowLinks: shape of the result (sorted, prefix-free, root rule) and de-duplication -/
namespace Fsm.C18
open FL

/-- F4 witness (kernel-checked): after the bytewise sort `a`, `a.txt`, `a/b` the unrepaired de-duplication
(`fixed = false`) compares only with the previous element and keeps `a/b` although `a` is kept. -/
theorem dedupe_not_prefix_free_unrepaired :
    dedupePaths false [[97], [97, 46, 116, 120, 116], [97, 47, 98]] = some [[97], [97, 46, 116, 120, 116], [97, 47, 98]] := by
  decide

/-- the repaired version drops it -/
theorem dedupe_repaired_witness :
    dedupePaths true [[97], [97, 46, 116, 120, 116], [97, 47, 98]] = some [[97], [97, 46, 116, 120, 116]] := by
  decide

/-- For every bytewise-sorted input list, the repaired de-duplication returns a list in which no
element is inside another (`x/` is never a prefix of another kept element) — or nothing when the root
is among them. -/
theorem dedupe_prefix_free (l r : List Path) (hs : l.Pairwise (fun a b => strLt a b = true))
    (h : dedupePaths true l = some r) : ∀ a ∈ r, ∀ b ∈ r, ¬ (a ++ [47]) <+: b :=
  dedupe_go_prefix_free l [] [] r hs nofun nofun h

theorem sortBytes_sorted (l : List Path) : SortedB (sortBytes l) :=
  List.foldlRecOn l _ .nil fun acc h x _ => insertSortedB_sorted x acc h

theorem dedupe_sorted (fixed : Bool) (l r : List Path) (hs : SortedB l) (h : dedupePaths fixed l = some r) : SortedB r := by
  obtain ⟨k, rfl, hsub⟩ := dedupe_go_sublist fixed l [] [] r h
  exact hs.sublist hsub

/-- **Shape of every FollowLinks result** (transcribed resolver, repaired de-duplication): for every tree, every request
list and every fuel the result is bytewise sorted, and no element is inside another. -/
theorem followLinks_sorted_prefix_free (l : List Ent) (paths : List Path) (fuel : Nat) (r : List Path)
    (h : followLinks true l paths fuel = some r) :
    SortedB r ∧ ∀ a ∈ r, ∀ b ∈ r, ¬ (a ++ [47]) <+: b := by
  unfold followLinks at h
  exact ⟨dedupe_sorted true _ r (sortBytes_sorted _) h, dedupe_prefix_free _ r (sortBytes_sorted _) h⟩

/-- the result is "everything" (no list) exactly when the root itself was resolved -/
theorem dedupe_none_iff_root (fixed : Bool) (l : List Path) : dedupePaths fixed l = none ↔ [dot] ∈ l :=
  dedupe_go_none_iff fixed l [] []

/-- The transcription of the resolver recurses on a fuel argument; the code itself has none (it terminates because every link
is recorded before it is followed). `resolveAllX` is the same run with a flag raised when the fuel runs out. When the flag
stays down - the driver reports it for every case it answers, and a case where it is up is a broken correspondence, not an
answer - the result is the one every larger fuel gives: the answer of the unbounded recursion. -/
theorem model_run_is_the_unbounded_run (fixed : Bool) (l : List Ent) (paths : List Path) (fuel k : Nat)
    (h : (resolveAllX l fuel paths).2 = false) :
    followLinks fixed l paths (fuel + k) = followLinks fixed l paths fuel := by
  unfold followLinks
  rw [← resolveAllX_fst, ← resolveAllX_fst, resolveAllX_stable l fuel k paths h]

/-- the flag is up when the fuel is too small (a chain of three links resolved with fuel 2), down when it suffices -/
example :
    let ln (p t : Path) : Ent := ⟨p, false, some t⟩
    let l := [ln [97] [98], ln [98] [99], ln [99] [100]]
    (resolveAllX l 2 [[97]]).2 = true ∧ (resolveAllX l 16 [[97]]).2 = false := by
  decide

end Fsm.C18
