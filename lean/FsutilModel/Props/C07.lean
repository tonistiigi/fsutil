import FsutilModel.Lemmas.C07
/-! # C07 — Receiver speaks the documented wire protocol -/
namespace Fsm.C07
open R

/-- In every reachable state of the receiver LTS: every id requested is one the change computation
needs, was announced before it was requested (its STAT index is below the number of STATs received),
is requested at most once; terminators only arrive for requested ids; and FIN is sent only after the
end-of-stats marker and the terminator of every needed id. -/
theorem receiver_protocol (need : List Nat) (es : List Ev) (s : St) (h : run { need := need } es = some s) :
    (∀ id ∈ s.reqd, id ∈ s.need ∧ id < s.statsRecv) ∧ s.reqd.Nodup ∧ (∀ id ∈ s.termd, id ∈ s.reqd) ∧
    (s.finSent = true → s.endSeen = true ∧ ∀ id ∈ s.need, id ∈ s.termd) := by
  have hi := inv_run h
  exact ⟨hi.reqNeed, hi.reqNodup, hi.termReq, hi.fin⟩

/-- For every event sequence, the bytes stored for an id are exactly the concatenation of the DATA
payloads received for it — any chunk sizes, any interleaving of ids and of STATs. -/
theorem stored_is_concat (need : List Nat) (es : List Ev) (s : St) (h : run { need := need } es = some s) (id : Nat) :
    storedFor id s = payloads id es :=
  storedFor_run h id

/-- Once FIN has been sent the ids requested are exactly the ids the change computation needs (as sets):
nothing needed was skipped and nothing else was asked for. -/
theorem requests_are_exactly_the_needed_ids (need : List Nat) (es : List Ev) (s : St) (h : run { need := need } es = some s)
    (hf : s.finSent = true) (id : Nat) : id ∈ s.reqd ↔ id ∈ s.need := by
  obtain ⟨h1, _, h3, h4⟩ := receiver_protocol need es s h
  exact ⟨fun hr => (h1 id hr).1, fun hn => h3 id ((h4 hf).2 id hn)⟩

/-- Nothing is stored for an id that was not requested: in every reachable state each stored chunk
belongs to a requested (hence needed and announced) id. -/
theorem stored_only_for_requested (need : List Nat) (es : List Ev) (s : St) (h : run { need := need } es = some s) :
    ∀ x ∈ s.stored, x.1 ∈ s.reqd ∧ x.1 ∈ s.need :=
  fun x hx =>
    have hr := (inv_run h).storedReq x hx
    ⟨hr, ((inv_run h).reqNeed x.1 hr).1⟩

/-- the acceptor takes a complete conforming log: two STATs, a request, its content in two chunks around the end marker,
the terminator, FIN -/
example : (run { need := [1] } [.rStat, .rStat, .sReq 1, .rData 1 [7, 8], .rEnd, .rData 1 [9], .rTerm 1, .sFin]).isSome = true := by
  decide

/-- In every reachable state a terminator has been accepted at most once per id: a second terminator
for an id (or content after it, see `step`) is not part of any accepted log. -/
theorem terminator_once_per_id (need : List Nat) (es : List Ev) (s : St) (h : run { need := need } es = some s) :
    s.termd.Nodup :=
  (inv_run h).termNodup

/-- FIN is the last thing the receiver sends: in every accepted log nothing after the FIN is a request
or another FIN (so FIN is sent at most once, and no id is requested after it). -/
theorem fin_is_the_last_send (need : List Nat) (before after : List Ev) (s : St)
    (h : run { need := need } (before ++ .sFin :: after) = some s) :
    ∀ e ∈ after, (∀ id, e ≠ .sReq id) ∧ e ≠ .sFin := by
  rw [run_eq, runOpt_append] at h
  obtain ⟨m, -, h⟩ := Option.bind_eq_some_iff.mp h
  obtain ⟨m1, hs, h⟩ := Option.bind_eq_some_iff.mp (runOpt_cons .. ▸ h)
  exact afterFin_run (step_finSent hs) (run_eq ▸ h)

/-- the acceptor rejects what `terminator_once_per_id` and `fin_is_the_last_send` exclude (the premises are not vacuous: these
logs are refused) -/
example : (run { need := [0] } [.rStat, .sReq 0, .rTerm 0, .rTerm 0]).isSome = false := by decide
example : (run { need := [0] } [.rStat, .sReq 0, .rTerm 0, .rEnd, .sFin, .sFin]).isSome = false := by decide

end Fsm.C07
