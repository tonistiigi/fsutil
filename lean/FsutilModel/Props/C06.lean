import FsutilModel.Model.SendProto
import FsutilModel.Lemmas.C06
/-! # C06 — Sender speaks the documented wire protocol -/
namespace Fsm.C06
open S

/-- Safety core, for every event sequence of the abstract sender (any number of workers, any queue
discipline, any order/timing/concurrency of requests, any split of files into reads): for every id the
DATA payloads sent so far concatenate to a prefix of the bytes of the entry at that STAT index, to
the whole file once its terminator was sent, and DATA is only ever sent for announced regular entries. -/
theorem sender_data (v : List (Bool × Bytes)) (es : List Ev) (s : St) (h : run (init v) es = some s) (id : Nat) :
    dataFor id s.out <+: bytesOf s id ∧
    (s.phase id = .finished → dataFor id s.out = bytesOf s id) ∧
    (dataFor id s.out ≠ [] → isReg s id = true ∧ id < s.sent) :=
  S.sender_data v es s h id

/-- `S.Inv`, the invariant from which `sender_data` follows, is preserved by every step of the sender LTS -/
theorem invariant_step {s s' : St} {e : Ev} (hi : Inv s) (hs : step s e = some s') : Inv s' :=
  S.inv_step hi hs

/-- STAT sequence: in every reachable state the number of STATs sent is at most the size of the view (the k-th STAT
announces the k-th view entry, by construction of the step), and once the end-of-stats marker has been sent every
entry has been announced. -/
theorem sender_stats (v : List (Bool × Bytes)) (es : List Ev) (s : St) (h : run (init v) es = some s) :
    s.sent ≤ s.view.length ∧ (s.endSent = true → s.sent = s.view.length) :=
  ⟨(statInv_run h).le, (statInv_run h).fin⟩

/-- exactly one end marker: after it neither another STAT nor a second marker is enabled -/
theorem one_end_marker (v : List (Bool × Bytes)) (es : List Ev) (s : St) (h : run (init v) es = some s)
    (he : s.endSent = true) : (∀ s', step s .sendStat ≠ some s') ∧ (∀ s', step s .sendEnd ≠ some s') :=
  ⟨fun _ hs => Nat.ne_of_lt (step_sendStat_some hs) ((statInv_run h).fin he),
   fun _ hs => Bool.noConfusion (he.symm.trans (step_sendEnd_some hs))⟩

/-- non-vacuity: a run announcing one regular 3-byte file, requested, opened, sent in chunks 2+1 and terminated -/
example : (run (init [(true, [1, 2, 3])]) [.sendStat, .recvReq 0, .sendEnd, .open_ 0, .data 0 2, .data 0 1, .term 0]).isSome = true := by
  decide

/-- Exactly one terminator: in every reachable state the number of terminators (empty DATA) sent for an
id is 1 if its answer is finished and 0 otherwise — never two, and never one in the middle of the
content (a DATA packet that carries content is not empty). -/
theorem one_terminator_per_id (v : List (Bool × Bytes)) (es : List Ev) (s : St) (h : run (init v) es = some s) (id : Nat) :
    terms id s.out = if s.phase id = .finished then 1 else 0 :=
  termInv_run h id

/-- Content and terminators are sent only for ids the receiver asked for: in every run of the sender, if any
content byte or a terminator has gone out for an id, a request for that id was received earlier in the run. -/
theorem content_only_for_requested (v : List (Bool × Bytes)) (es : List Ev) (s : St) (h : run (init v) es = some s) (id : Nat)
    (hd : dataFor id s.out ≠ [] ∨ 0 < terms id s.out) : Ev.recvReq id ∈ es :=
  wasRequested_run h id (wasRequested_of_sent (inv_run h) (termInv_run h) hd)

/-- non-vacuity: after the run above the one terminator of id 0 is counted, and none for id 1 -/
example : ((run (init [(true, [1, 2, 3])]) [.sendStat, .recvReq 0, .sendEnd, .open_ 0, .data 0 2, .data 0 1, .term 0]).map
    fun s => (terms 0 s.out, terms 1 s.out)) = some (1, 0) := by
  decide

end Fsm.C06
