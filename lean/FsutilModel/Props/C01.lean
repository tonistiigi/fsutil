import FsutilModel.Props.C02
/-! # C01 — Sync convergence (tree level) -/
namespace Fsm.C01
open D

/-- The change events the receiver computes for (old destination listing, announced source listing),
applied in order to the old listing, produce exactly the source listing: same path set and, per path,
the source's identity — for every valid pair of listings, every size, both differs. -/
theorem transfer_events_converge (none : Bool) (L U : List StatE)
    (hL : Valid byteOrd (L.map StatE.toEnt)) (hU : Valid byteOrd (U.map StatE.toEnt)) :
    ∀ q, (diffB none L U).foldl (applyEv byteOrd) (toMap (L.map StatE.toEnt)) q = toMap (U.map StatE.toEnt) q :=
  C02.diff_converges none L U hL hU

/-- Merge mode (the destination is not walked: the old listing is empty): every source entry is
announced as an addition, nothing is ever deleted. -/
theorem merge_never_deletes (none : Bool) (U : List StatE) :
    ∀ ev ∈ diffB none [] U, ∃ e, ev = .add e :=
  only_adds_of_nil

end Fsm.C01
