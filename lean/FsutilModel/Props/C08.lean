import FsutilModel.Props.C06
import FsutilModel.Props.C07
import FsutilModel.Props.C02
/-! # C08 — Outcome is schedule-independent

Over the protocol LTSs: the bytes sent for a finished id, the bytes stored for an id and the set of requested ids do not
depend on the schedule. That the change set is a function of the two listings is true of any function. -/
namespace Fsm.C08

/-- Whatever the interleaving of workers, requests and reads (any event sequence the sender LTS
admits), once an id is finished the bytes sent for it are the file's bytes: two runs that both finish
an id have sent identical bytes for it. -/
theorem sent_bytes_schedule_independent (v : List (Bool × S.Bytes)) (es1 es2 : List S.Ev) (s1 s2 : S.St)
    (h1 : S.run (S.init v) es1 = some s1) (h2 : S.run (S.init v) es2 = some s2) (id : Nat)
    (f1 : s1.phase id = .finished) (f2 : s2.phase id = .finished) :
    S.dataFor id s1.out = S.dataFor id s2.out := by
  have a := (S.sender_data v es1 s1 h1 id).2.1 f1
  have b := (S.sender_data v es2 s2 h2 id).2.1 f2
  rw [a, b, S.bytesOf, S.bytesOf, S.view_run h1, S.view_run h2]

/-- On the receiving side the stored bytes depend only on the payload sequence of that id, not on how
ids and STATs interleave: two event sequences with the same per-id payloads store the same bytes. -/
theorem stored_bytes_schedule_independent (need : List Nat) (es1 es2 : List R.Ev) (s1 s2 : R.St)
    (h1 : R.run { need := need } es1 = some s1) (h2 : R.run { need := need } es2 = some s2) (id : Nat)
    (hp : R.payloads id es1 = R.payloads id es2) : R.storedFor id s1 = R.storedFor id s2 := by
  rw [C07.stored_is_concat need es1 s1 h1 id, C07.stored_is_concat need es2 s2 h2 id, hp]

/-- The request set is schedule-independent: two complete receiver runs (FIN sent) over the same change
computation have requested the same ids, whatever the interleaving of STATs, requests, content and
terminators was. -/
theorem request_set_schedule_independent (need : List Nat) (es1 es2 : List R.Ev) (s1 s2 : R.St)
    (h1 : R.run { need := need } es1 = some s1) (h2 : R.run { need := need } es2 = some s2)
    (f1 : s1.finSent = true) (f2 : s2.finSent = true) (id : Nat) : id ∈ s1.reqd ↔ id ∈ s2.reqd := by
  rw [C07.requests_are_exactly_the_needed_ids need es1 s1 h1 f1, C07.requests_are_exactly_the_needed_ids need es2 s2 h2 f2,
    R.need_run h1, R.need_run h2]

/-- The set of changes (hence of requests and notifications) is a function of the two listings. -/
theorem change_set_is_a_function (none : Bool) (L U : List StatE) :
    ∀ evs1 evs2, evs1 = diffB none L U → evs2 = diffB none L U → evs1 = evs2 := by
  intro _ _ h1 h2; rw [h1, h2]

end Fsm.C08
