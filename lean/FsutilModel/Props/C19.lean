import FsutilModel.Buffer
import FsutilModel.Lemmas.C19Fwd
/-! # C19 — Metadata-only transfer -/
namespace Fsm.C19

/-- The chunked listing buffer written out equals the concatenation of the frames allocated in it, for
every chunk capacity and every sequence of frame sizes (including frames larger than a chunk). -/
theorem buffer_flatten (chunkSize : Nat) (frames : List (List Nat)) :
    B.flatten (frames.foldl (B.alloc chunkSize) []) = frames.flatten :=
  B.buffer_flatten chunkSize frames

/-- With the repaired counter, every id registered for a content request is the zero-based position
of that entry in the full STAT sequence — for every stream, including ones that contain the listing name. -/
theorem ids_are_stat_indices (es : List M.E) : M.idsOK es (M.run true es) :=
  M.ids_are_stat_indices_fixed es

/-- Unrepaired (F2, `fixed = false`) this holds only for streams without the listing name … -/
theorem ids_are_stat_indices_partial (es : List M.E) (h : ∀ e ∈ es, e.path ≠ M.metaName) :
    M.idsOK es (M.run false es) :=
  M.ids_are_stat_indices_partial es h

/-- … and violates it otherwise (F2 witness, kernel-checked): the file after the listing name gets id 0, not 1. -/
theorem ids_shifted_witness : (M.run false [M.f M.metaName, M.f [[97]]]).files = [([[97]], 0)] :=
  M.ids_shifted_witness

/-- The same for the executable byte-level model the correspondence runs (`metaRun`, repaired counter): for every
announced STAT sequence and every selector, each id registered for a content request is the zero-based position
of that entry in the full sequence. -/
theorem ids_are_stat_indices_bytes (selected : Path → Bool) (es : List StatE) :
    ∀ p n, (p, n) ∈ (metaRun true selected es).files → ∃ e, es[n]? = some e ∧ e.path = p :=
  metaRun_ids true selected es fun _ _ => Or.inl rfl

/-- … and unrepaired (`fixed = false`), provided the stream does not contain the listing name -/
theorem ids_are_stat_indices_bytes_partial (selected : Path → Bool) (es : List StatE) (h : ∀ e ∈ es, e.path ≠ metaNameB) :
    ∀ p n, (p, n) ∈ (metaRun false selected es).files → ∃ e, es[n]? = some e ∧ e.path = p :=
  metaRun_ids false selected es fun e he => Or.inr (h e he)

/-- The listing holds, in stream order, every announced entry but the listing file's own name - for every stream and selector,
with the counter repaired or not. -/
theorem listing_is_stream_minus_own_name (fixed : Bool) (selected : Path → Bool) (es : List StatE) :
    (metaRun fixed selected es).listing = es.filter (fun e => e.path ≠ metaNameB) :=
  C19F.listing_eq fixed selected es

/-- The pending-ancestor stack replays exactly what is needed: for every stream that is canonical once the listing name is
taken out (depth first, a directory before what is below it, one entry per path, the parent of an entry is its nearest announced
ancestor - `C19F.Canon`, the shape the validator enforces and `C19F.mcanonB` decides) and every selector, what is handed to
the change computation is the selected entries and the directories above them, in stream order, each once. -/
theorem forwarded_is_selected_plus_ancestors (fixed : Bool) (selected : Path → Bool) (es : List StatE)
    (hC : C19F.Canon (es.filter (fun e => e.path ≠ metaNameB))) :
    (metaRun fixed selected es).forwarded = specForwarded selected es :=
  C19F.forwarded_eq_spec fixed selected es hC

/-- the premise is decidable; the driver evaluates this checker on every stream a real sender produced -/
theorem canonical_stream_check_sound (l : List StatE) (h : C19F.mcanonB l = true) : C19F.Canon l :=
  C19F.mcanonB_sound l h

/-- the premise is met by a stream with a nested selection and a listing-name entry, and the replay is not trivial there -/
example :
    let d (p : Path) : StatE := ⟨p, modeDir ||| 493, 0, 0, 0, 0, [], 0, 0, []⟩
    let f (p : Path) : StatE := ⟨p, 420, 0, 0, 1, 0, [], 0, 0, []⟩
    -- .fsutil-metadata, a/, a/b/, a/b/c (selected), a/d, e
    let es := [f metaNameB, d [97], d [97, 47, 98], f [97, 47, 98, 47, 99], f [97, 47, 100], f [101]]
    C19F.mcanonB (es.filter (fun e => e.path ≠ metaNameB)) = true ∧
    (metaRun true (fun p => p == [97, 47, 98, 47, 99]) es).forwarded = [d [97], d [97, 47, 98], f [97, 47, 98, 47, 99]] := by
  decide

/-- Ids are registered - so content can be requested - for selected entries only: for every stream and selector, whatever the order
of the entries. -/
theorem content_requested_only_for_selected (fixed : Bool) (selected : Path → Bool) (es : List StatE) :
    ∀ p n, (p, n) ∈ (metaRun fixed selected es).files → selected p = true :=
  fun p n h => files_selected fixed selected es {} (fun _ h => nomatch h) (p, n) h

end Fsm.C19
