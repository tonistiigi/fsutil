import FsutilModel.Lemmas.C10Walk
/-! # C10 — Filtered walk; pruning is unobservable -/
namespace Fsm.C10
open P F

/-- Core of pruning soundness for the parent-result matcher, for every pattern list (patterns
abstracted to their match predicate), every directory `d` and every descendant `q` evaluated with
parent results that came from somewhere between `d` and `q`: if no positive pattern can match below
`d` without matching `d` itself (the semantic prune condition), then a negative verdict at `d`
stays negative at `q` — nothing below a pruned directory would have been reported. -/
theorem prune_core (d q : Pr.Path) : ∀ (ps : List Pr.Pat) (Ip Iq : List Bool) (f g : Bool),
    Ip.length = ps.length → Iq.length = ps.length →
    Pr.Le (Pr.go ps Ip d f).2 Iq → Pr.Rel d ps (Pr.go ps Ip d f).2 Iq →
    (∀ p ∈ ps, p.neg = false → p.m q = true → p.m d = true) → (g = true → f = true) →
    ((Pr.go ps Iq q g).1 = true → (Pr.go ps Ip d f).1 = true) :=
  fun ps Ip Iq f g _ _ => Pr.go_verdict d q ps Ip Iq f g

/-- F9 witness (kernel-checked): with the double trim `a/*/**` is treated as the literal `a`,
`a/x` is pruned although `a/x/y` matches. -/
theorem f9_witness :
    let s := PS.Shape.starDstar [97]            -- "a/*/**"
    let d : Path := [97, 47, 120]               -- "a/x"
    let q : Path := [97, 47, 120, 47, 121]      -- "a/x/y"
    PS.base2 s = some [97] ∧ PS.keepWalking [97] d = false ∧ PS.under d q = true ∧ PS.m s q = true ∧ PS.m s d = false :=
  PS.f9_witness

/-- With a single trim the syntactic test is sound for the shapes exact `t`, `t/*`, `t/**` (and for `t/*/**` for an empty
reason: it has no literal base, `PS.base1` is `none`):
if the walk does not keep walking into `d`, nothing under `d` matches unless `d` itself matches. -/
theorem prune_syntactic_sound (s : PS.Shape) (t : Path) (hb : PS.base1 s = some t) (d : Path)
    (hk : PS.keepWalking t d = false) : ∀ q, PS.under d q = true → PS.m s q = true → PS.m s d = true :=
  PS.prune_syn_sound s t hb d (by simp) hk

/-- the executable parent-results matcher IS the abstract one, whenever it is given parent results (i.e. below the root) -/
theorem matchesUPR_eq (ps : List P.Pat) (path : List Nat) (I : List Bool) (hne : I ≠ []) (hlen : I.length = ps.length) :
    matchesUPR ps path I = Pr.upr (ps.map toAbs) I path :=
  matchesUPR_toAbs hlen path

/-- **Pruning is unobservable for the executable matcher** (include side, semantic condition): let the transcribed
`MatchesUsingParentResults` give verdict "no match" at a directory `d`. If no positive pattern of the list matches a path of
`Below` without matching `d` itself, then along every chain of paths of `Below` evaluated top-down with the parent results
threaded through - as the walk does below `d` - the verdict stays "no match": nothing below `d` would have been reported,
so returning SkipDir at `d` cannot be observed. For every pattern list (negations included) and every such chain. -/
theorem exec_prune_sound (ps : List P.Pat) (hps : ps ≠ []) (Ip : List Bool) (hIp : Ip.length = ps.length) (d : List Nat)
    (hv : (matchesUPR ps d Ip).1 = false) (Below : List Nat → Prop)
    (hS : ∀ q, Below q → ∀ p ∈ ps, p.neg = false → patMatch p q = true → patMatch p d = true) :
    ∀ (chain : List (List Nat)), (∀ q ∈ chain, Below q) → chain ≠ [] →
      (chain.foldl (fun (acc : List Bool × Bool) x => let r := matchesUPR ps x acc.1; (r.2, acc.2 || r.1))
        ((matchesUPR ps d Ip).2, false)).2 = false := by
  intro chain hB hne
  have hl0 : (Pr.upr (ps.map toAbs) Ip d).2.length = (ps.map toAbs).length := Pr.upr_length ..
  rw [matchesUPR_toAbs hIp] at hv ⊢
  rw [uprFold_toAbs chain _ false (by rw [hl0, List.length_map])]
  obtain ⟨q, hq⟩ := List.exists_mem_of_ne_nil chain hne
  exact Pr.prune_sound (ps.map toAbs) Ip d (by rw [hIp, List.length_map]) hv Below
    (fun q hq => List.forall_mem_map.mpr (hS q hq)) chain hB _ hl0 (Pr.Le_refl _) (Pr.Rel_refl d _ _ hl0) q hq trivial

/-- **The syntactic prune test implies the semantic condition for literal and `t/**` patterns** (the pattern kinds that
`onlyPrefixIncludes` admits and that patternmatcher matches by string comparison): if for every positive pattern the
directory `d/` is not a prefix of the pattern's literal base followed by `/`, then no positive pattern matches a path
below `d` without matching `d`. -/
theorem literal_prune_condition (ps : List P.Pat) (d : List Nat)
    (hshape : ∀ p ∈ ps, p.neg = false →
      (p.mt = .exact ∧ withoutTrailingGlob true p = p.text) ∨
      (p.mt = .prefix_ ∧ p.text = withoutTrailingGlob true p ++ [47, 42, 42]))
    (hprune : ∀ p ∈ ps, p.neg = false → (d ++ [47]).isPrefixOf (withoutTrailingGlob true p ++ [47]) = false) :
    ∀ q, (d ++ [47]).isPrefixOf q = true → ∀ p ∈ ps, p.neg = false → patMatch p q = true → patMatch p d = true := by
  intro q hq p hp hn
  rcases hshape p hp hn with ⟨hmt, hbase⟩ | ⟨hmt, htext⟩
  · simp only [patMatch_exact hmt]
    exact PS.prune_syn_sound (.exact p.text) _ (congrArg some hbase.symm) d (by simp) (hprune p hp hn) q hq
  · simp only [patMatch_dstar hmt htext]
    exact PS.prune_syn_sound (.dstar _) _ rfl d (by simp) (hprune p hp hn) q hq

/-- **Pruning below a directory is unobservable for literal and `t/**` include lists, from the syntactic test alone**: if the
executable matcher says "no match" at `d` and the prune test of filter.go passes (no positive pattern's base lies at or below
`d`), then along every chain of paths below `d` evaluated with threaded parent results the verdict stays "no match". -/
theorem literal_prune_unobservable (ps : List P.Pat) (hps : ps ≠ []) (Ip : List Bool) (hIp : Ip.length = ps.length) (d : List Nat)
    (hv : (matchesUPR ps d Ip).1 = false)
    (hshape : ∀ p ∈ ps, p.neg = false →
      (p.mt = .exact ∧ withoutTrailingGlob true p = p.text) ∨
      (p.mt = .prefix_ ∧ p.text = withoutTrailingGlob true p ++ [47, 42, 42]))
    (hprune : ∀ p ∈ ps, p.neg = false → (d ++ [47]).isPrefixOf (withoutTrailingGlob true p ++ [47]) = false) :
    ∀ (chain : List (List Nat)), (∀ q ∈ chain, (d ++ [47]).isPrefixOf q = true) → chain ≠ [] →
      (chain.foldl (fun (acc : List Bool × Bool) x => let r := matchesUPR ps x acc.1; (r.2, acc.2 || r.1))
        ((matchesUPR ps d Ip).2, false)).2 = false :=
  exec_prune_sound ps hps Ip hIp d hv (fun q => (d ++ [47]).isPrefixOf q = true)
    (fun q hq p hp hn hm => literal_prune_condition ps d hshape hprune q hq p hp hn hm)

/-- non-vacuity: the parsed patterns `a/b` and `a/**` have exactly these shapes -/
example : (parsePattern [97, 47, 98]).map (fun p => (p.mt, decide (withoutTrailingGlob true p = p.text))) = some (.exact, true) := by decide
example : (parsePattern [97, 47, 42, 42]).map (fun p => (p.mt, decide (p.text = withoutTrailingGlob true p ++ [47, 42, 42]))) = some (.prefix_, true) := by
  decide

/-! ## The filtered walk against the naive reference, for whole listings

`filterFS.Walk` (and the copier) thread `MatchesUsingParentResults` down the walk; `filterFS.Open` and the naive reference
use the stateless `MatchesOrParentMatches`. Known finding F5 is that the two differ under negations. Without negations
they are the same function, and then the filtered walk of every canonical listing (`C16W.canonB`, which implies the premise
`C16W.Canon`, is evaluated on the listings the real walk produced) reports exactly what the reference keeps. -/

/-- parent-result matching along the ancestors of a path = stateless matching, for every negation-free pattern list -/
theorem chain_matching_is_stateless_without_negations (ps : List P.Pat) (hneg : ∀ p ∈ ps, p.neg = false) (path : List Nat)
    (hfirst : ∀ q rest, P.parentPrefixes path ++ [path] = q :: rest → P.parentPrefixes q = []) :
    C.uprChain ps path = P.matchesOrParent ps path :=
  C10C.chain_eq_stateless ps hneg path

/-- **filtered walk = naive reference** (pruning off, no map function, no negations, any canonical listing) -/
theorem filtered_walk_equals_reference_without_negations (cfg : F.Cfg) (hp : cfg.prune = false) (hm : cfg.map = [])
    (hf : (!cfg.inc.isEmpty || !cfg.exc.isEmpty) = true)
    (hni : ∀ p ∈ cfg.inc, p.neg = false) (hnx : ∀ p ∈ cfg.exc, p.neg = false)
    (l : List StatE) (hC : C16W.Canon l) :
    ∀ e, e ∈ F.filterWalk true cfg l ↔ e ∈ F.reference cfg l :=
  C10W.filterWalk_eq_reference cfg hp hm hf hni hnx l hC

end Fsm.C10
