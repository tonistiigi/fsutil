import FsutilModel.DiffFinal
import FsutilModel.Model.DiffB
import FsutilModel.DiffEmits
/-! # C02 — Incremental minimality (listing level)

The receiver's change computation (`doubleWalkDiff` + `sameFile`) over the old destination listing and
the announced source listing. -/
namespace Fsm.C02
open D

/-- `sameFile` (metadata differ), transcribed from the Go code, is exactly equality of the identity
tuple of the property: mode/type, uid, gid, link name, device numbers and, for non-directories,
size and mtime. -/
theorem sameFile_iff_identity (a b : StatE) : sameFileB a b = true ↔ a.ident = b.ident := by
  -- with equal modes both are directories or neither is, and only then size and mtime count
  have key : a.mode = b.mode → ((a.isDir = true ∨ (a.size = b.size ∧ a.mtime = b.mtime)) ↔
      (if a.isDir then none else some (a.size, a.mtime)) = (if b.isDir then none else some (b.size, b.mtime))) := by
    intro hm
    have hd : b.isDir = a.isDir := by unfold StatE.isDir; rw [hm]
    rw [hd]
    cases a.isDir <;> simp
  simp only [sameFileB, StatE.ident, Ident.mk.injEq, Bool.and_eq_true, Bool.or_eq_true, beq_iff_eq]
  constructor
  · rintro ⟨h1, ⟨⟨⟨⟨hm, hu⟩, hg⟩, hM⟩, hm'⟩, hl⟩
    exact ⟨hm, hu, hg, hM, hm', hl, (key hm).mp h1⟩
  · rintro ⟨hm, hu, hg, hM, hm', hl, hx⟩
    exact ⟨(key hm).mpr hx, ⟨⟨⟨⟨hm, hu⟩, hg⟩, hM⟩, hm'⟩, hl⟩

/-- the abstract `same` used by the diff model is the transcribed `sameFile` -/
theorem same_toEnt (a b : StatE) : same a.toEnt b.toEnt = sameFileB a b := by
  rw [Bool.eq_iff_iff, sameFile_iff_identity, same_iff]
  -- the identity includes the mode, which decides `isDir`
  refine and_iff_right_of_imp fun h => ?_
  show a.isDir = b.isDir
  unfold StatE.isDir
  rw [show a.mode = b.mode from congrArg Ident.mode h]

/-- C02 "a re-sync of an unchanged source emits zero change notifications and zero content requests":
diffing a listing against itself emits nothing — any listing, any length. -/
theorem resync_is_silent (L : List StatE) : diffB false L L = [] := by
  unfold diffB
  exact D.resync_is_silent byteOrd (L.map StatE.toEnt) _ none (by simp)

/-- C01/C02 convergence at listing level: for valid (strictly ascending, parent-closed) listings the
emitted add/modify/delete events, applied to the old listing, give exactly the source listing —
for both differs. -/
theorem diff_converges (none : Bool) (L U : List StatE)
    (hL : Valid byteOrd (L.map StatE.toEnt)) (hU : Valid byteOrd (U.map StatE.toEnt)) :
    ∀ q, (diffB none L U).foldl (applyEv byteOrd) (toMap (L.map StatE.toEnt)) q = toMap (U.map StatE.toEnt) q := by
  intro q
  unfold diffB
  have := D.diff_converges byteOrd none (L.map StatE.toEnt) (U.map StatE.toEnt) hL hU q
  simpa using this

/-- Exactly the new entries are announced as ADDED (listing level, any strictly ascending listings, any length):
an entry is announced as added iff it is in the source listing and its path is not in the old one. -/
theorem adds_exactly_new (none : Bool) (L U : List StatE)
    (hL : Sorted byteOrd (L.map StatE.toEnt)) (hU : Sorted byteOrd (U.map StatE.toEnt)) (e : BEnt) :
    Ev.add e ∈ diffB none L U ↔ (e ∈ U.map StatE.toEnt ∧ ∀ l ∈ L.map StatE.toEnt, l.path ≠ e.path) := by
  unfold diffB
  exact add_mem_iff hL hU (by simp) e

/-- Exactly the changed entries are announced as MODIFIED (listing level, any strictly ascending listings, any length):
an entry is announced as modified iff its path is in both listings and the identity tuple differs (with differencing
disabled: iff its path is in both — every co-present regular file is then re-requested). -/
theorem modifies_exactly_changed (none : Bool) (L U : List StatE)
    (hL : Sorted byteOrd (L.map StatE.toEnt)) (hU : Sorted byteOrd (U.map StatE.toEnt)) (e : BEnt) :
    Ev.modify e ∈ diffB none L U ↔
      (e ∈ U.map StatE.toEnt ∧ ∃ l ∈ L.map StatE.toEnt, l.path = e.path ∧ (none = true ∨ same l e = false)) := by
  unfold diffB
  exact modify_mem_iff hL hU (by simp) e

/-- A DELETE only ever names a path of the old listing that the source listing does not have (listing level, any
strictly ascending listings, any length). -/
theorem deletes_only_removed (none : Bool) (L U : List StatE)
    (hL : Sorted byteOrd (L.map StatE.toEnt)) (hU : Sorted byteOrd (U.map StatE.toEnt)) (p : Path)
    (h : Ev.delete p ∈ diffB none L U) :
    (∃ l ∈ L.map StatE.toEnt, l.path = p) ∧ ∀ u ∈ U.map StatE.toEnt, u.path ≠ p := by
  unfold diffB at h
  exact delete_mem_only hL hU p h

/-- Minimality, per path: the change events of any two strictly ascending listings carry strictly ascending paths,
so the receiver computes at most one event per path (and sends at most one request for it). -/
theorem at_most_one_event_per_path (none : Bool) (L U : List StatE)
    (hL : Sorted byteOrd (L.map StatE.toEnt)) (hU : Sorted byteOrd (U.map StatE.toEnt)) :
    ((diffB none L U).map evPath).Pairwise (fun a b => byteOrd.lt a b = true) :=
  -- the binder `none` shadows `Option.none` in these statements
  diff_ascending byteOrd none (L.length + U.length + 1) (L.map StatE.toEnt) (U.map StatE.toEnt) Option.none hL hU

/-- a directory `a` of which only the mtime changed and a file `a/b` whose size changed: one change event (size and
mtime of a directory are not compared) -/
example : (diffB false [⟨[97], modeDir ||| 493, 0, 0, 0, 5, [], 0, 0, []⟩, ⟨[97, 47, 98], 420, 0, 0, 3, 5, [], 0, 0, []⟩]
                       [⟨[97], modeDir ||| 493, 0, 0, 0, 6, [], 0, 0, []⟩, ⟨[97, 47, 98], 420, 0, 0, 4, 5, [], 0, 0, []⟩]).length = 1 := by
  decide

end Fsm.C02
