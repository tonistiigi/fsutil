import FsutilModel.Props.C02
/-! # C05 — Change notifications mirror exactly what changed (listing level) -/
namespace Fsm.C05
open D

/-- Replaying the notified add/modify/delete events on the old destination listing yields the new
one (the receiver notifies exactly the events of its change computation). -/
theorem notifications_replay (none : Bool) (L U : List StatE)
    (hL : Valid byteOrd (L.map StatE.toEnt)) (hU : Valid byteOrd (U.map StatE.toEnt)) :
    ∀ q, (diffB none L U).foldl (applyEv byteOrd) (toMap (L.map StatE.toEnt)) q = toMap (U.map StatE.toEnt) q :=
  C02.diff_converges none L U hL hU

/-- No notification at all when nothing changed. -/
theorem unchanged_is_silent (L : List StatE) : diffB false L L = [] := C02.resync_is_silent L

/-- No existing unchanged path is reported: a modify notification implies that the identity tuple of the old and the
new entry differ (metadata differ), for any strictly ascending listings. -/
theorem unchanged_never_notified (L U : List StatE)
    (hL : Sorted byteOrd (L.map StatE.toEnt)) (hU : Sorted byteOrd (U.map StatE.toEnt)) (e : BEnt)
    (h : Ev.modify e ∈ diffB false L U) : ∃ l ∈ L.map StatE.toEnt, l.path = e.path ∧ same l e = false := by
  obtain ⟨_, l, hl, hp, hs⟩ := (C02.modifies_exactly_changed false L U hL hU e).mp h
  rcases hs with hs | hs
  · cases hs
  · exact ⟨l, hl, hp, hs⟩

/-- every path that exists only in the new listing is reported as added, every co-present path whose identity changed
as modified -/
theorem every_change_notified (L U : List StatE)
    (hL : Sorted byteOrd (L.map StatE.toEnt)) (hU : Sorted byteOrd (U.map StatE.toEnt)) (e : BEnt) (he : e ∈ U.map StatE.toEnt) :
    ((∀ l ∈ L.map StatE.toEnt, l.path ≠ e.path) → Ev.add e ∈ diffB false L U) ∧
    (∀ l ∈ L.map StatE.toEnt, l.path = e.path → same l e = false → Ev.modify e ∈ diffB false L U) :=
  ⟨fun h => (C02.adds_exactly_new false L U hL hU e).mpr ⟨he, h⟩,
   fun l hl hp hs => (C02.modifies_exactly_changed false L U hL hU e).mpr ⟨he, l, hl, hp, Or.inr hs⟩⟩

/-- Every removal is notified: for every valid pair of listings, each path of the old listing that the new one
does not have is covered by a notification that removes it — a delete of the path itself or of a directory
above it, or an add/modify that replaces an entry above it (a directory that became a file or link). -/
theorem every_removal_notified (none : Bool) (L U : List StatE)
    (hL : Valid byteOrd (L.map StatE.toEnt)) (hU : Valid byteOrd (U.map StatE.toEnt)) (l : BEnt)
    (hl : l ∈ L.map StatE.toEnt) (hu : ∀ u ∈ U.map StatE.toEnt, u.path ≠ l.path) :
    ∃ ev ∈ diffB none L U, Removes byteOrd ev l.path := by
  have hconv := C02.diff_converges none L U hL hU l.path
  rw [toMap_eq_none.mpr hu] at hconv
  exact vanish_cause byteOrd _ _ l.path (by rw [toMap_mem hL.sorted hl]; nofun) hconv

/-- Each changed path is notified once: for every pair of strictly ascending listings (any size), the paths of the
notifications come in strictly ascending protocol order, hence no path is reported twice — whether as add, modify or
delete, with either differ. -/
theorem each_path_notified_once (none : Bool) (L U : List StatE)
    (hL : Sorted byteOrd (L.map StatE.toEnt)) (hU : Sorted byteOrd (U.map StatE.toEnt)) :
    ((diffB none L U).map evPath).Pairwise (fun a b => byteOrd.lt a b = true) ∧ ((diffB none L U).map evPath).Nodup := by
  have h := C02.at_most_one_event_per_path none L U hL hU
  exact ⟨h, h.imp fun hlt => byteOrd.lt_ne hlt⟩

end Fsm.C05
