import FsutilModel.Props.C07
import FsutilModel.Props.C01
import FsutilModel.SenderConcProof
import FsutilModel.ReceiverConcProof
/-! # C04 — Faults: success is never reported for a partial tree (safety); no goroutine hangs once the stream is torn down
(liveness) -/
namespace Fsm.C04

/-- The receiver sends FIN (and can only then return success) only in states where the end-of-stats
marker was received and the terminator of every needed id has arrived — for every event sequence,
i.e. whatever fault cut the run short before. -/
theorem fin_only_if_complete (need : List Nat) (es : List R.Ev) (s : R.St) (h : R.run { need := need } es = some s)
    (hf : s.finSent = true) : s.endSeen = true ∧ ∀ id ∈ s.need, id ∈ s.termd :=
  (C07.receiver_protocol need es s h).2.2.2 hf

/-- resume: convergence is quantified over every valid prior destination listing, in particular over
whatever an aborted or killed run left behind. -/
theorem resume_converges (none : Bool) (leftover U : List StatE)
    (hL : D.Valid byteOrd (leftover.map StatE.toEnt)) (hU : D.Valid byteOrd (U.map StatE.toEnt)) :
    ∀ q, (diffB none leftover U).foldl (D.applyEv byteOrd) (D.toMap (leftover.map StatE.toEnt)) q = D.toMap (U.map StatE.toEnt) q :=
  C01.transfer_events_converge none leftover U hL hU

/-! ## liveness after teardown (concrete, blocking model of the sender's goroutines) -/

/-- Once the stream is torn down the sender cannot deadlock: in every well-formed state (≥ 1 worker, pipeline capacity ≥ 1)
with some goroutine still alive, some goroutine can take a step — whatever the pipeline holds and however many
requests are pending (> 132 included: the pipeline holds 128, send.go:35, and each of the four workers, send.go:69, one). -/
theorem sender_no_deadlock_after_teardown (cap : Nat) (hcap : 0 < cap) (s : SC.St) (hwf : SC.WF s) (hw : s.workers ≠ [])
    (ht : s.torn = true) (hnd : SC.allDone s = false) : ∃ t env, (SC.step true cap s t env).isSome = true :=
  SC.teardown_progress cap hcap s hwf hw ht hnd

/-- Once the stream is torn down every step of every goroutine of the sender strictly decreases the variant `SC.mu`, so
under every scheduler all goroutines have ended after at most `mu s` steps: the call returns in bounded time and leaves no
goroutine behind. -/
theorem sender_terminates_after_teardown (fixed : Bool) (cap : Nat) (s s' : SC.St) (t : SC.Tid) (env : SC.Env)
    (ht : s.torn = true) (hs : SC.step fixed cap s t env = some s') : SC.mu s' < SC.mu s :=
  SC.teardown_decreases fixed cap s s' t env ht hs

/-- the invariant `SC.WF` that `sender_no_deadlock_after_teardown` assumes is preserved by every step (it holds at the start:
`SC.wf_init`) -/
theorem sender_wf_invariant (fixed : Bool) (cap : Nat) (s s' : SC.St) (t : SC.Tid) (env : SC.Env) (hwf : SC.WF s)
    (hs : SC.step fixed cap s t env = some s') : SC.WF s' :=
  SC.wf_step fixed cap s s' t env hwf hs

/-- F3: with the unconditional channel send of the unrepaired code (`fixed = false`) there is a state — all workers gone,
pipeline full, receive loop pushing one more request — that is stuck for ever after teardown, while the repaired push
leaves it. -/
theorem unrepaired_sender_can_block_forever :
    let s : SC.St := { walker := .exited, workers := [.exited], queue := [7], closed := false, recv := .push 8,
                       cancelled := true, torn := true }
    SC.allDone s = false ∧ (∀ t env, SC.step false 1 s t env = none) ∧ (∃ t env, (SC.step true 1 s t env).isSome = true) :=
  SC.unrepaired_push_can_block_forever

/-! ## liveness after teardown: the receiver (packet reader, feeder `dynamicWalker.fill`, differ goroutine, async writers) -/

/-- Once the stream is torn down the receiver cannot deadlock: in every well-formed state with some goroutine still alive
some goroutine can take a step — whatever `walkChan` and the differ's channel hold (any capacities ≥ 1, any backlog of
announced entries, e.g. more than 2 × 128: `walkChan`, receive.go:115, and the differ's `c2`, diff_containerd.go:68, hold
128 each). -/
theorem receiver_no_deadlock_after_teardown (capW capC : Nat) (hW : 0 < capW) (hC : 0 < capC) (s : RC.St) (hwf : RC.WF s)
    (ht : s.torn = true) (hnd : RC.allDone s = false) : ∃ t env, (RC.step true capW capC s t env).isSome = true :=
  RC.teardown_progress capW capC hW hC s hwf ht hnd

/-- Every step of every goroutine of the receiver, repaired or not, strictly decreases the variant `RC.mu` (bounded time, no
goroutine left behind). -/
theorem receiver_terminates (fixed : Bool) (capW capC : Nat) (s s' : RC.St) (t : RC.Tid) (env : RC.Env)
    (hs : RC.step fixed capW capC s t env = some s') : RC.mu s' < RC.mu s :=
  RC.step_decreases fixed capW capC s s' t env hs

/-- The invariant `RC.WF` that `receiver_no_deadlock_after_teardown` assumes is preserved by every step of the repaired
receiver. -/
theorem receiver_wf_invariant (capW capC : Nat) (s s' : RC.St) (t : RC.Tid) (env : RC.Env) (hwf : RC.WF s)
    (hs : RC.step true capW capC s t env = some s') : RC.WF s' :=
  RC.wf_step capW capC s s' t env hwf hs

/-- `RC.WF` holds at the start, whatever the number of entries the peer will announce -/
theorem receiver_wf_init (n : Nat) : RC.WF (RC.init n) := RC.wf_init n

/-- A feeder that leaves on cancellation WITHOUT closing `closeCh` while it is handing an entry to the differ reaches, by an
explicit schedule from the initial state, a state in which the packet reader is blocked for ever after teardown (not a step
of the model: `torn` is set on the state the schedule ends in); the repaired feeder does not
(`RC.repaired_feeder_same_schedule`). -/
theorem feeder_without_close_blocks_forever :
    (match RC.runTrace false 1 1 (RC.init 4) RC.badSchedule with
     | some s => !RC.allDone { s with torn := true } && RC.stuck false 1 1 { s with torn := true }
     | none => false) = true :=
  RC.unrepaired_feeder_can_block_forever

end Fsm.C04
