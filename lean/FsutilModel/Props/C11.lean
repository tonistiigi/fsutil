import FsutilModel.Lemmas.C11
/-! # C11 — A filtered view transfers as a self-contained tree (hard-link reset) -/
namespace Fsm.C11
open F

/-- A hard link whose source is not in the filtered view (nothing recorded for its link name) is
announced as a regular entry without link name — whatever else the listing contains. -/
theorem reset_promotes (seen : List (Path × Path)) (e : StatE) (rest : List StatE)
    (hd : (e.isDir || e.isSymlink) = false) (hl : e.linkname ≠ [])
    (hnone : seen.find? (·.1 = e.linkname) = none) :
    (hardlinkResetGo seen (e :: rest)).head? = some { e with linkname := [] } := by
  rw [step_promote seen e rest hd hl hnone]; rfl

/-- … and every later member of the group that names the same (missing) source is re-pointed to the
promoted entry. -/
theorem reset_relinks (seen : List (Path × Path)) (e : StatE) (rest : List StatE) (k v : Path)
    (hd : (e.isDir || e.isSymlink) = false) (hl : e.linkname ≠ [])
    (hsome : seen.find? (·.1 = e.linkname) = some (k, v)) (hne : v ≠ e.path) :
    (hardlinkResetGo seen (e :: rest)).head? = some { e with linkname := v } := by
  rw [step_relink seen e rest k v hd hl hsome hne]; rfl

/-- entries that are not hard links pass through unchanged -/
theorem reset_keeps_plain (seen : List (Path × Path)) (e : StatE) (rest : List StatE) (hl : e.linkname = []) :
    (hardlinkResetGo seen (e :: rest)).head? = some e := by
  by_cases hn : NonDir e
  · rw [step_plain seen e rest hn hl]; rfl
  · rw [step_dir seen e rest hn]; rfl

/-- concrete instance (kernel-evaluated): the source `a` is filtered out; `b → a` is promoted, `c → a`
becomes `c → b`, and the result is closed under link names. -/
example :
    let b : StatE := ⟨[98], 420, 0, 0, 3, 5, [97], 0, 0, []⟩
    let c : StatE := ⟨[99], 420, 0, 0, 3, 5, [97], 0, 0, []⟩
    (hardlinkReset [b, c]).map (·.linkname) = [[], [98]] ∧ linksClosed [] (hardlinkReset [b, c]) = true := by
  decide

/-- the listing comes from a walk: paths are distinct, and a link name never names an entry that is itself announced as a
link (the walk names the first member of the group), nor the entry itself -/
structure Canon (l : List StatE) : Prop where
  nodup : (l.map (·.path)).Nodup
  names : ∀ e ∈ l, NonDir e → e.linkname ≠ [] → e.linkname ∉ linkPaths l ∧ e.linkname ≠ e.path
  nonempty : ∀ e ∈ l, e.path ≠ []

/-- the reset changes link names only: same entries, same order -/
theorem reset_paths : ∀ (l : List StatE) (seen : List (Path × Path)),
    (hardlinkResetGo seen l).map (·.path) = l.map (·.path) := by
  intro l
  induction l with
  | nil => intro seen; simp [hardlinkResetGo]
  | cons e rest ih =>
    intro seen
    obtain ⟨v, seen', h, _⟩ := step_linkname seen e rest
    rw [h, List.map_cons, List.map_cons, ih]

/-- **Closure of the reset**: for every listing as a walk produces it (distinct paths, link names naming non-link entries or
entries that are not in the listing at all), every hard link of the reset listing names an EARLIER entry of the listing
that is announced without link name — whichever members of each group the filter removed. -/
theorem reset_closed (l : List StatE) (hc : Canon l) : linksClosed [] (hardlinkReset l) = true := by
  apply reset_closed_go l l [] []
  · intro kv h; simp at h
  · exact fun e he hn hl => ⟨(hc.names e he hn hl).1, mem_linkPaths he hn hl⟩
  · exact fun e he => ⟨by simp, hc.nonempty e he⟩
  · intro x hx; simp at hx
  · exact hc.nodup

/-- non-vacuity: `b → a`, `c → a`, `d` plain, with `a` filtered out of the listing, is a canonical listing -/
example :
    let b : StatE := ⟨[98], 420, 0, 0, 3, 5, [97], 0, 0, []⟩
    let c : StatE := ⟨[99], 420, 0, 0, 3, 5, [97], 0, 0, []⟩
    let d : StatE := ⟨[100], 420, 0, 0, 3, 5, [], 0, 0, []⟩
    Canon [b, c, d] :=
  ⟨by decide, by unfold NonDir; decide, by decide⟩

end Fsm.C11
