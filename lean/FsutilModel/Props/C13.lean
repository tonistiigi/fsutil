import FsutilModel.Lemmas.C17Perm
/-! # C13 — copy preserves metadata / applies the requested options (entry level) -/
namespace Fsm.C13
open C

/-- Without options the metadata a copied entry ends up with is the source's: mode incl. special bits,
owner, xattrs; and its mtime is the source's mtime. -/
theorem no_options_preserves (src : StatE) (dst src' : Path) :
    let a : Args := { src := src', dst := dst }
    (applyInfo a src []).1 = { src with xattrs := src.xattrs ++ [] } ∧ (applyInfo a src []).2 = some src.mtime := by
  simp [applyInfo]

/-- With the chown option every copied entry carries the requested owner. -/
theorem chown_option (a : Args) (u g : Nat) (h : a.chown = some (u, g)) (src : StatE) (ex : List (Path × Path)) :
    (applyInfo a src ex).1.uid = u ∧ (applyInfo a src ex).1.gid = g := by
  rw [applyInfo, h]
  exact ⟨rfl, rfl⟩

/-- With the utime option every copied entry carries the requested timestamp. -/
theorem utime_option (a : Args) (t : Int) (h : a.utime = some t) (src : StatE) (ex : List (Path × Path)) :
    (applyInfo a src ex).2 = some t := by
  rw [applyInfo, h]
  rfl

/-- The mode option never changes a symlink … -/
theorem mode_option_symlink (a : Args) (src : StatE) (ex : List (Path × Path)) (hs : src.isSymlink = true) :
    (applyInfo a src ex).1.mode = src.mode :=
  if_pos hs

/-- … and replaces exactly the permission / special bits of every other entry. -/
theorem mode_option_other (a : Args) (m : Nat) (hm : a.mode = some m) (hms : a.modeStr = none) (src : StatE) (ex : List (Path × Path)) (hs : src.isSymlink = false) :
    (applyInfo a src ex).1.mode = (src.mode &&& (4294967295 - permMask)) ||| goPermOfUnix m := by
  rw [applyInfo, hs, hm, hms]
  rfl

/-- The octal mode option replaces **exactly** the permission and special bits: the permission/setuid/
setgid/sticky bits of the copied entry are those requested, and every other bit (the entry type) is
the source's — for every source mode and every requested mode. -/
theorem mode_option_sets_exactly_perm_bits (a : Args) (m : Nat) (hm : a.mode = some m) (hms : a.modeStr = none) (src : StatE)
    (ex : List (Path × Path)) (hs : src.isSymlink = false) :
    (applyInfo a src ex).1.mode &&& permMask = goPermOfUnix m ∧
    (applyInfo a src ex).1.mode &&& typeMask = src.mode &&& typeMask := by
  rw [mode_option_other a m hm hms src ex hs]
  exact set_masked_bits masks_disjoint src.mode (goPermOfUnix m) (goPerm_within_mask m)

/-- asking for the mode an entry already has (its own bits, as unix bits) requests exactly the permission and special bits it has -/
theorem mode_option_with_own_bits (m : Nat) : goPermOfUnix (T.unixPerm m) = m &&& permMask :=
  perm_round_trip m

/-- Under **every** option combination the options touch only their own field: name, link target,
size and device numbers of a copied entry are the source's, whatever chown / mode / utime say. -/
theorem options_keep_identity_fields (a : Args) (src : StatE) (ex : List (Path × Path)) :
    (applyInfo a src ex).1.path = src.path ∧ (applyInfo a src ex).1.linkname = src.linkname ∧
    (applyInfo a src ex).1.size = src.size ∧ (applyInfo a src ex).1.devmajor = src.devmajor ∧
    (applyInfo a src ex).1.devminor = src.devminor := by
  simp [applyInfo]

/-- Every option that is absent leaves its field as the source has it, whatever the other options are. -/
theorem absent_option_preserves (a : Args) (src : StatE) (ex : List (Path × Path)) :
    (a.chown = none → (applyInfo a src ex).1.uid = src.uid ∧ (applyInfo a src ex).1.gid = src.gid) ∧
    (a.mode = none → a.modeStr = none → (applyInfo a src ex).1.mode = src.mode) ∧
    (a.utime = none → (applyInfo a src ex).2 = some src.mtime) := by
  refine ⟨fun h => ?_, fun h1 h2 => ?_, fun h => ?_⟩
  · rw [applyInfo, h]
    exact ⟨rfl, rfl⟩
  · rw [applyInfo, h1, h2]
    exact ite_self _
  · rw [applyInfo, h]
    rfl

/-- The extended attributes of a copied entry do not depend on the options: every source attribute is
carried, and an attribute the destination already had survives exactly when the source has no
attribute of that name. -/
theorem xattrs_source_wins (a : Args) (src : StatE) (ex : List (Path × Path)) (kv : Path × Path) :
    kv ∈ (applyInfo a src ex).1.xattrs ↔ kv ∈ src.xattrs ∨ (kv ∈ ex ∧ ∀ s ∈ src.xattrs, s.1 ≠ kv.1) := by
  simp [applyInfo]

/-- non-vacuity: chown + utime + mode together on a regular file, an attribute of the destination kept -/
example : applyInfo { src := [], dst := [], chown := some (5, 6), utime := some 9, mode := some 420 }
    { path := [97], mode := 493, uid := 1, gid := 2, size := 3, mtime := 4, linkname := [], devmajor := 0, devminor := 0,
      xattrs := [([1], [2])] } [([1], [9]), ([3], [4])] =
    ({ path := [97], mode := 420, uid := 5, gid := 6, size := 3, mtime := 4, linkname := [], devmajor := 0, devminor := 0,
       xattrs := [([1], [2]), ([3], [4])] }, some 9) := by decide

end Fsm.C13
