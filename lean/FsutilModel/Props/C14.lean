import FsutilModel.Model.CopyB
import FsutilModel.PathFnProof
/-! # C14 — copy stays inside its roots: the chroot-style resolver -/
namespace Fsm.C14
open FL C

/-- a component that can be part of a resolved location -/
def PlainComp (c : Path) : Prop := c ≠ [] ∧ c ≠ [dot] ∧ c ≠ dd

/-- The chroot-style resolver ("as if each root were /") never leaves the root: whatever symlinks the
tree contains (absolute, `..`-laden, dangling, looping) and whatever the path argument is, the location
it arrives at consists of plain components only — no `..`, no `.`, no empty component — so joined below
the root it names something inside the root. For every tree, every path, every fuel. -/
theorem resolve_stays_inside (l : List Ent) : ∀ (fuel : Nat) (st : List (Path × List Path)) (seen cur rest : List Path) (fin : List Path),
    (∀ c ∈ cur, PlainComp c) →
    (resolveLoop l fuel st seen cur rest).2 = some fin →
    ∀ c ∈ fin, PlainComp c := by
  intro fuel st seen cur rest
  -- every recursive call of `resolveLoop` is made with a location that is again plain. The cases are the branches of
  -- `resolveLoop` in the order of its text: 1 out of fuel, 2 nothing left to resolve, 3 "" or ".", 4 "..", 5 a link crossed before
  -- with the same remainder (or too many), 6 a link with an absolute target, 7 with a relative one, 8 an entry that is no link,
  -- 9 no entry
  fun_induction resolveLoop l fuel st seen cur rest <;> intro fin hc h
  case case1 | case5 => cases h
  case case2 => cases h; exact hc
  case case3 ih | case7 ih => exact ih fin hc h
  case case4 ih => exact ih fin (fun x hx => hc x (List.dropLast_subset _ hx)) h
  case case6 ih => exact ih fin (by simp) h
  case case8 hskip hdd _ _ _ _ ih | case9 hskip hdd _ _ ih =>
    -- the component `c` goes onto the location: it is none of "", ".", ".."
    refine ih fin (fun x hx => ?_) h
    rcases List.mem_append.mp hx with hx | hx
    · exact hc x hx
    · rw [List.mem_singleton.mp hx]
      exact ⟨fun e => hskip (.inl e), fun e => hskip (.inr e), hdd⟩

/-- non-vacuity: a link `a -> ../../outside` below the root resolves to `outside` INSIDE the root -/
example : (resolve [⟨[97], false, some [46, 46, 47, 46, 46, 47, 111]⟩] [97]).2 = some [111] := by decide

/-- The landing name of a copy is a single plain component (or nothing): whatever the source argument is (`sub/..`,
`..`, `a//b/`, absolute or not), the name joined below an existing destination directory is empty or a non-empty
separator-free component different from "." and ".." — the copy lands on a direct child of the destination, never above it. -/
theorem landName_plain (a : Path) :
    landName true a = [] ∨ (PlainC' (landName true a) ∧ sep ∉ landName true a) := by
  unfold landName
  rcases baseB_clean_rooted a with h | h
  · exact .inl (by simp [h])
  · have h47 : baseB (clean (sep :: a)) ≠ [47] := fun e => h.2 (e ▸ List.mem_singleton_self _)
    simpa [h47, h.1.2.1] using Or.inr h

/-- F23 witness: unrepaired (`fixed = false`), the landing name is `..` for the argument `a/..` -/
theorem landName_unrepaired_dotdot : landName false [97, 47, 46, 46] = dd := by decide

/-- non-vacuity: the repaired rule gives nothing for `a/..` (the root itself) and `b` for `a/../b/` -/
example : landName true [97, 47, 46, 46] = [] ∧ landName true [97, 47, 46, 46, 47, 98, 47] = [98] := by decide

end Fsm.C14
