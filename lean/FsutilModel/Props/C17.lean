import FsutilModel.Props.C11
import FsutilModel.Lemmas.C17
import FsutilModel.Lemmas.C17Perm
/-! # C17 — tar export (member abstraction) -/
namespace Fsm.C17
open T F

/-- one member per view entry, in walk order -/
theorem members_in_walk_order (view : List VEnt) :
    (members view).length = view.length ∧
    ∀ i (h : i < view.length), ((members view)[i]?).map (·.name) =
      some (let s := view[i].st; if s.isDir && s.path.getLast? ≠ some 47 then s.path ++ [47] else s.path) := by
  refine ⟨List.length_map _, fun i h => ?_⟩
  rw [members, List.getElem?_map, List.getElem?_eq_getElem h]
  rfl

/-- A payload follows the header iff the member is a regular file of positive size without link name;
symlinks and hard links are link members of size 0 and never carry a payload — for every view entry. -/
theorem payload_iff (v : VEnt) :
    hasPayload (memberOf v) = true ↔ (typeOf v.st = .reg ∧ v.st.size > 0 ∧ v.st.linkname = []) := by
  show (decide ((memberOf v).tf = .reg) && decide ((memberOf v).size > 0) && decide (v.st.linkname = [])) = true ↔ _
  rw [memberOf_tf, memberOf_size]
  by_cases hl : v.st.linkname = []
  · rw [if_neg (not_not_intro hl), if_neg (not_not_intro hl)]
    by_cases ht : typeOf v.st = .reg <;> simp [hl, ht]
  · simp [hl]

theorem links_have_no_payload (v : VEnt) (h : v.st.linkname ≠ []) :
    (memberOf v).size = 0 ∧ (memberOf v).sha = [] ∧ ((memberOf v).tf = .symlink ∨ (memberOf v).tf = .link) := by
  rw [memberOf_size, memberOf_tf, if_pos h, if_pos h]
  refine ⟨rfl, by simp [memberOf, h], ?_⟩
  split
  · exact .inl rfl
  · exact .inr rfl

/-- directories are named with a trailing slash -/
theorem dir_trailing_slash (v : VEnt) (hd : v.st.isDir = true) : (memberOf v).name.getLast? = some 47 := by
  rw [memberOf_name, hd]
  split
  · exact List.getLast?_concat
  · next h => simpa using h

/-- identity fields are carried over unchanged -/
theorem identity_preserved (v : VEnt) :
    (memberOf v).uid = v.st.uid ∧ (memberOf v).gid = v.st.gid ∧ (memberOf v).xattrs = v.st.xattrs ∧
    (memberOf v).devmajor = v.st.devmajor ∧ (memberOf v).devminor = v.st.devminor ∧ (memberOf v).linkname = v.st.linkname :=
  ⟨rfl, rfl, rfl, rfl, rfl, rfl⟩

/-- **The repaired WriteTar writes an extractable archive for every filtered view** (link structure): whichever members of
each hard-link group the filter removed, every `link` member of the archive names an earlier member that is written as
the file itself (unrepaired (F24), the listing is written without the reset). -/
theorem tar_links_closed (l : List StatE) (hc : C11.Canon l) (hdir : ∀ s ∈ l, s.isDir = true → s.linkname = [])
    (sha : StatE → Path) :
    memLinksClosed [] (members ((hardlinkReset l).map fun s => { st := s, sha := sha s })) = true :=
  (members_closed sha (hardlinkReset l) [] fun s hs hd => hdir s (C11.reset_dirs_unchanged l [] s hs hd) hd).trans
    (C11.reset_closed l hc)

/-- The mode field round-trips: for every `os.FileMode` the tar mode bits WriteTar writes (`unixPerm`:
rwx bits, setuid 04000, setgid 02000, sticky 01000) read back — as an extractor, or the copy option that
takes unix bits, reads them — to exactly the permission and special bits of the entry; no bit of them
is lost or invented, whatever the other (type) bits are. -/
theorem mode_bits_round_trip (m : Nat) : C.goPermOfUnix (unixPerm m) = m &&& C.permMask :=
  perm_round_trip m

/-- hence two entries whose archived mode fields are equal have equal permission and special bits -/
theorem mode_field_injective_on_perm_bits (m1 m2 : Nat) (h : unixPerm m1 = unixPerm m2) :
    m1 &&& C.permMask = m2 &&& C.permMask := by
  rw [← perm_round_trip m1, ← perm_round_trip m2, h]

/-- non-vacuity: a setuid+sticky 0751 directory mode -/
example : unixPerm (modeDir ||| modeSetuid ||| modeSticky ||| 489) = 2048 + 512 + 489 := by decide

end Fsm.C17
