import FsutilModel.Lemmas.C15
/-! # C15 — overlay semantics and idempotence (abstract tree maps) -/
namespace Fsm.C15

/-- a tree as a finite map path ↦ entry; `E` = whatever an entry carries -/
abbrev TMap (E : Type) := Path → Option E

/-- the overlay of a source over a destination (always-replace reading, where no conflict arises): a path
the source has wins; a destination path strictly below a source NON-directory disappears with the
replaced entry; everything else of the destination stays -/
def overlay {E : Type} (isDir : E → Bool) (s d : TMap E) (under : Path → Path → Bool) (ancestors : Path → List Path) : TMap E :=
  fun p =>
    match s p with
    | some e => some e
    | none =>
      if (ancestors p).any (fun a => match s a with | some e => !isDir e | none => false) then none else d p

/-- Overlaying the same source a second time changes nothing — for every source, every destination. -/
theorem overlay_idempotent {E : Type} (isDir : E → Bool) (s d : TMap E) (under : Path → Path → Bool) (anc : Path → List Path) :
    overlay isDir s (overlay isDir s d under anc) under anc = overlay isDir s d under anc := by
  funext p
  unfold overlay
  split
  · rfl
  · split <;> simp [*]   -- the test on the ancestors reads `s` only, never the destination

/-- Unrelated destination entries stay: a path the source does not have and that is not below a source
non-directory keeps its destination entry. -/
theorem overlay_keeps_unrelated {E : Type} (isDir : E → Bool) (s d : TMap E) (under : Path → Path → Bool) (anc : Path → List Path)
    (p : Path) (h1 : s p = none) (h2 : (anc p).any (fun a => match s a with | some e => !isDir e | none => false) = false) :
    overlay isDir s d under anc p = d p := by
  simp [overlay, h1, h2]

/-- source entries win -/
theorem overlay_source_wins {E : Type} (isDir : E → Bool) (s d : TMap E) (under : Path → Path → Bool) (anc : Path → List Path)
    (p : Path) (e : E) (h : s p = some e) : overlay isDir s d under anc p = some e := by
  simp [overlay, h]

/-- Landing rule (the executable reference uses exactly this predicate): a source directory lands inside an existing
destination under its own name unless directory-contents mode is on … -/
theorem dir_into_existing (cdc destIsDir : Bool) : C.landsInside cdc true true destIsDir = !cdc := by
  cases cdc <;> cases destIsDir <;> rfl

/-- … a non-directory copied to an existing directory lands inside it (either mode) … -/
theorem file_into_existing_dir (cdc : Bool) : C.landsInside cdc false true true = true := by
  cases cdc <;> rfl

/-- … a non-directory copied onto an existing non-directory replaces it (lands on the name itself) … -/
theorem file_onto_existing_file (cdc : Bool) : C.landsInside cdc false true false = false := by
  cases cdc <;> rfl

/-- … and a destination that does not exist yet is the name the source gets. -/
theorem new_destination_is_the_name (cdc srcIsDir destIsDir : Bool) : C.landsInside cdc srcIsDir false destIsDir = false := by
  cases cdc <;> cases srcIsDir <;> cases destIsDir <;> rfl

/-- the working-tree primitives of the executable reference are idempotent -/
theorem upsert_idem (t : List C.Node) (n : C.Node) : (C.upsert (C.upsert t n) n).map (·.path) = (C.upsert t n).map (·.path) := by
  rw [C15L.upsert_of_mem (C15L.mem_upsert_self t n) rfl, List.map_map]
  refine List.map_congr_left fun y _ => ?_
  show (if y.path = n.path then n else y).path = y.path
  split
  · next hc => exact hc.symm
  · rfl

/-! ## Hard-link sources of the copier (F29)

The copier records, per source inode, the destination path of the first member of a hard-link group
(`St.inodes`) and links later members to that path. `C15L.Inv src s`: nodes with equal paths carry
equal content, and every recorded source is a node of the working tree that carries the content of
(an entry with) that inode. -/

/-- **The recorded link sources stay valid along every sequence of copied entries**, whatever the options,
patterns and collisions between sources: every state reached from a state satisfying the invariant
satisfies it (the repaired `dropTarget` forgets the sources recorded at a path that is replaced). -/
theorem link_sources_stay_valid (src : List Snap) (a : C.Args) (srcSub : List Snap) (srcRel dstFinal : Path) :
    ∀ (es : List Snap) (s s' : C.St), (∀ e ∈ es, e ∈ src) → C15L.Inv src s →
      es.foldlM (C.copyEntry a srcSub srcRel dstFinal) s = .ok s' → C15L.Inv src s' :=
  fun _ _ _ hsub => foldlM_inv fun e he _ _ => C15L.inv_copyEntry (hsub e he)

/-- … and along a whole call: any sequence of sources (wildcard matches), each with whatever destination path the
call resolves for it, each with its landing rule, `MkdirAll` of the missing parents and all its entries. The states
between the sources are exactly where F29 went wrong (a later source replaces a path an earlier one recorded). -/
theorem link_sources_stay_valid_call (a : C.Args) (srcTree : List Snap) :
    ∀ (srcs : List (Path × Path × Path)) (s s' : C.St), C15L.Inv (C15L.rootSnap :: srcTree) s →
      srcs.foldlM (fun s sr => C.copyOne a srcTree sr.1 sr.2.1 sr.2.2 s) s = .ok s' → C15L.Inv (C15L.rootSnap :: srcTree) s' :=
  fun _ _ _ => foldlM_inv fun _ _ _ _ => C15L.inv_copyOne

/-- the invariant holds initially (nothing recorded yet) for every destination whose paths determine the content -/
theorem link_sources_initially (src : List Snap) (t : List C.Node) (h : C15L.PathDet t) : C15L.Inv src { tree := t } :=
  ⟨h, by intro ip hip; cases hip⟩

/-- **A hard link never joins different contents**: in a state satisfying the invariant, the link source the copier
has recorded for an entry's inode is a node carrying that entry's content (source entries with one inode have one
content). This is what fails unrepaired (F29). -/
theorem link_joins_same_content (src : List Snap) (s : C.St) (e : Snap) (l : Path)
    (hsrc : ∀ x ∈ src, ∀ y ∈ src, x.ino = y.ino → x.sha = y.sha) (he : e ∈ src) (h : C15L.Inv src s)
    (hl : C.leaderOf e s = some l) : ∃ n ∈ s.tree, n.path = l ∧ n.sha = e.sha :=
  let ⟨n, hn, hnp, e', he', hei, hsha⟩ := h.2 _ (C15L.leaderOf_some hl)
  ⟨n, hn, hnp, hsha.trans (hsrc e' he' e he hei)⟩

/-- witness for the unrepaired `dropTarget`: after the path of a recorded source has been replaced, the record still
names it — the next member of that group would be linked to whatever stands there now -/
theorem unrepaired_link_source_goes_stale :
    let f : C.Node := { path := [102], st := { path := [102], mode := 420, uid := 0, gid := 0, size := 1, mtime := 0, linkname := [],
                                                 devmajor := 0, devminor := 0 }, sha := [1], mtime := none }
    let s : C.St := { tree := [f], inodes := [(7, [102])] }
    (C.dropTargetG false s [102]).inodes = [(7, [102])] ∧ (C.dropTargetG false s [102]).tree = [] ∧
    (C.dropTargetG true s [102]).inodes = [] := by
  exact ⟨rfl, rfl, rfl⟩

/-- the invariant is satisfiable with a recorded source (the statements above are not vacuous) -/
example :
    let e : Snap := { st := { path := [102], mode := 420, uid := 0, gid := 0, size := 1, mtime := 0, linkname := [], devmajor := 0, devminor := 0 },
                      ino := 7, nlink := 2, sha := [1] }
    let f : C.Node := { path := [111, 47, 102], st := e.st, sha := [1], mtime := none }
    C15L.Inv [e] { tree := [f], inodes := [(7, [111, 47, 102])] } := by
  intro e f
  refine ⟨?_, ?_⟩
  · intro x hx y hy _
    simp only [List.mem_singleton] at hx hy
    rw [hx, hy]
  · intro ip hip
    simp only [List.mem_singleton] at hip
    subst hip
    exact ⟨f, by simp, rfl, e, by simp, rfl, rfl⟩

end Fsm.C15
