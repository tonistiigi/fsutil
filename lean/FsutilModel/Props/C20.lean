import FsutilModel.WirePacket
import FsutilModel.WireSafe
/-! # C20 — Wire encoding and framing -/
namespace Fsm.C20
open W

/-- The protobuf varint codec round-trips every 64-bit value and leaves the rest of the input alone
(decoder = the generated shift loop with its overflow and end-of-input exits). -/
theorem varint_roundtrip (n : Nat) (h : n < 2^64) (rest : List Nat) :
    V.decVar 10 1 0 (V.encVar n ++ rest) = some (n, rest) :=
  V.varint_roundtrip n h rest

theorem ofBe32_be32 (n : Nat) (h : n < 4294967296) : ofBe32 (be32 n) = n :=
  W.ofBe32_be32 h

/-- Framing: any sequence of messages (each shorter than 2^32 bytes, empty ones included) written as
4-byte big-endian length + payload is read back identical and in order. The reader sees the byte
stream only through `io.ReadFull`, so the statement is independent of how the stream is fragmented. -/
theorem frames_roundtrip (msgs : List (List Nat)) (h : ∀ m ∈ msgs, m.length < 4294967296) (fuel : Nat)
    (hf : msgs.length < fuel) : recvAll fuel (sendAll msgs) = some msgs :=
  recvAll_sendAll msgs h fuel hf

/-- non-vacuity: two messages, one of them empty -/
example : recvAll 5 (sendAll [[1, 2, 3], []]) = some [[1, 2, 3], []] := by decide

/-- The transcribed varint reader (`readVar`: array-indexed, `(b & 0x7f) << shift` OR-ed into a 64-bit accumulator, overflow
and end-of-input exits) reads back what the transcribed writer wrote, wherever it sits in a buffer. -/
theorem readVar_roundtrip (d : Bytes) (l i n : Nat) (hn : n < two64) (hat : At d i (encVar n))
    (hl : i + (encVar n).length ≤ l) : readVar d l i = .ok (n, i + (encVar n).length) :=
  readVar_enc hn hat hl

/-- **Stat round trip over the transcribed generated code**: for every well-formed value (uint32 / int64 field ranges,
distinct xattr keys, no unknown fields; names and values are arbitrary byte strings, including non-UTF-8 and empty ones)
`UnmarshalVT(MarshalVT(s)) = s`. -/
theorem stat_roundtrip (s : PStat) (hwf : s.WF) (hlen : (marshalStat s).length < two63) :
    unmarshalStat (marshalStat s) = .ok s :=
  W.stat_roundtrip s hwf hlen

/-- **Packet round trip** (type, nested optional Stat, id, data; `data = some []` is the one value the wire format cannot
distinguish from `none`, as in protobuf). -/
theorem packet_roundtrip (p : PPacket) (hwf : p.WF) (hlen : (marshalPacket p).length < two63) :
    unmarshalPacket (marshalPacket p) = .ok p :=
  W.packet_roundtrip p hwf hlen

/-- **Never panics on arbitrary bytes** (model level): in the transcription every index expression `dAtA[i]` and every
slice expression `dAtA[a:b]` is bounds-checked with the distinguished outcome `panic`; for EVERY byte string the Stat
decoder returns a value or one of the decoder's own errors, never `panic` — the generated bounds checks are sufficient. -/
theorem stat_decoder_never_panics (bs : List Nat) : unmarshalStat bs ≠ .error .panic :=
  W.unmarshalStat_never_panics bs

/-- the same for the Packet decoder, including the nested Stat decoded from its own sub-slice -/
theorem packet_decoder_never_panics (bs : List Nat) : unmarshalPacket bs ≠ .error .panic :=
  W.unmarshalPacket_never_panics bs

/-- a value for the non-vacuity examples below: negative size, maximal mode, an empty xattr value, a non-UTF-8 name -/
def exStat : PStat :=
  { path := [255, 47, 0], mode := 4294967295, size := -1, mtime := 1700000000000000000,
    xattrs := [([117], []), ([118], [0, 200])] }
/-- `exStat` meets the hypothesis of `stat_roundtrip` -/
example : exStat.WF := ⟨by decide, by decide, by decide, by decide, by decide, by decide, by decide, by decide, rfl⟩
/-- `exStat` is decoded back, by evaluation: a test of how the statement reads, not a proof of it (`+kernel` because plain
`decide` runs the decoder a second time in the elaborator before the kernel does) -/
example : (match unmarshalStat (marshalStat exStat) with | .ok s => decide (s = exStat) | .error _ => false) = true := by decide +kernel
/-- a packet carrying `exStat` meets the hypothesis of `packet_roundtrip` -/
example : (⟨2, some exStat, 7, some [1, 2, 3], []⟩ : PPacket).WF :=
  ⟨by decide, fun st h => by
    cases h; exact ⟨by decide, by decide, by decide, by decide, by decide, by decide, by decide, by decide, rfl⟩,
   by decide, by decide, rfl⟩

end Fsm.C20
