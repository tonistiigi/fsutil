import FsutilModel.Basic
import FsutilModel.Model.Wire
import FsutilModel.Varint
/-! What sits where in a buffer (`At`), and the primitive readers of the generated code on encoder output: a varint
(reader and writer both reduced to the list-level codec of `Varint`), a tag byte, a length-delimited payload; and Go's
integer conversions. -/
namespace Fsm.W

def At (d : Bytes) (i : Nat) (bs : List Nat) : Prop := ∀ j (h : j < bs.length), d[i + j]? = some bs[j]

theorem At.nil (d : Bytes) (i : Nat) : At d i [] := nofun

theorem At.cons {d : Bytes} {i x : Nat} {xs : List Nat} : At d i (x :: xs) ↔ d[i]? = some x ∧ At d (i + 1) xs := by
  constructor
  · intro h
    refine ⟨h 0 (Nat.zero_lt_succ _), fun j hj => ?_⟩
    rw [Nat.add_assoc, Nat.add_comm 1]
    exact h (j + 1) (Nat.succ_lt_succ hj)
  · intro ⟨h0, h1⟩ j hj
    cases j with
    | zero => exact h0
    | succ j =>
      have := h1 j (Nat.lt_of_succ_lt_succ hj)
      rwa [Nat.add_assoc, Nat.add_comm 1] at this

theorem At.append {d : Bytes} {i : Nat} {a b : List Nat} : At d i (a ++ b) ↔ At d i a ∧ At d (i + a.length) b := by
  induction a generalizing i with
  | nil => simp [At.nil]
  | cons x xs ih => simp only [List.cons_append, At.cons, ih, List.length_cons, and_assoc, Nat.add_assoc, Nat.add_comm 1]

theorem At.lt_size {d : Bytes} {i j : Nat} {bs : List Nat} (h : At d i bs) (hj : j < bs.length) : i + j < d.size :=
  (Array.getElem?_eq_some_iff.mp (h j hj)).1

theorem At.toArray (bs : List Nat) : At bs.toArray 0 bs := fun j hj => by simp [hj]

theorem encVarLoop_eq {f n : Nat} (hf : 0 < f) (hn : n < 128 ^ f) : encVarLoop f n = V.encVar n := by
  induction f generalizing n with
  | zero => omega
  | succ f ih =>
    rw [encVarLoop]
    by_cases h : n < 128
    · rw [if_pos h, V.encVar_lt n h]
    · obtain ⟨hf', hq⟩ := V.fits_div h hn
      rw [if_neg h, V.encVar_ge n h, ih hf' hq]

theorem encVar_eq {n : Nat} (hn : n < two64) : encVar n = V.encVar n := by
  rw [encVar, Nat.mod_eq_of_lt hn]
  exact encVarLoop_eq (by decide) (Nat.lt_of_lt_of_le hn (by decide))

theorem or_mul_pow {acc s : Nat} (x : Nat) (h : acc < 2 ^ s) : acc ||| x * 2 ^ s = acc + x * 2 ^ s := by
  rw [Nat.mul_comm, Nat.add_comm, Nat.or_comm, Nat.two_pow_add_eq_or_of_lt h]

theorem or_shift_eq {acc s : Nat} (x : Nat) (hs : s < 64) (hacc : acc < 2 ^ s) :
    acc ||| (x <<< s) % two64 = (acc + x * 2 ^ s) % 2 ^ 64 := by
  have e : 2 ^ 64 = 2 ^ s * 2 ^ (64 - s) := by rw [← Nat.pow_add, Nat.add_sub_cancel' (Nat.le_of_lt hs)]
  have hl : (x * 2 ^ s) % two64 = x % 2 ^ (64 - s) * 2 ^ s := by
    rw [show two64 = 2 ^ 64 from rfl, e, Nat.mul_comm (2 ^ s), Nat.mul_mod_mul_right]
  rw [Nat.shiftLeft_eq, hl, or_mul_pow _ hacc, e, Nat.mod_mul, Nat.add_mul_mod_self_right, Nat.mod_eq_of_lt hacc,
    Nat.add_mul_div_right _ _ (Nat.two_pow_pos s), Nat.div_eq_of_lt hacc, Nat.zero_add, Nat.mul_comm]

/-- `s + 7 * f ≤ 70` (ten rounds of 7 bits) keeps the shift below 64 for as long as the decoder has fuel, so the reader's
`shift ≥ 64` exit is the decoder's running out of fuel. -/
theorem readVarLoop_of_decVar {d : Bytes} {l f s i acc v : Nat} {bs : List Nat} (hs : s + 7 * f ≤ 70) (hacc : acc < 2 ^ s)
    (hat : At d i bs) (hl : i + bs.length ≤ l) (h : V.decVar f (2 ^ s) acc bs = some (v, [])) :
    readVarLoop d l (f + 1) i s acc = .ok (v, i + bs.length) := by
  induction f generalizing s i acc bs with
  | zero => cases h
  | succ f ih =>
    cases bs with
    | nil => cases h
    | cons b bs =>
      obtain ⟨hd, hat'⟩ := At.cons.mp hat
      rw [List.length_cons] at hl ⊢
      rw [V.decVar] at h
      rw [readVarLoop, if_neg (by omega), if_neg (by omega), hd]
      simp only [show b &&& 127 = b % 128 from Nat.and_two_pow_sub_one_eq_mod b 7, or_shift_eq _ (show s < 64 by omega) hacc]
      split
      · next hb =>
        rw [if_pos hb] at h
        cases h
        rfl
      · next hb =>
        have hacc' : (acc + b % 128 * 2 ^ s) % 2 ^ 64 < 2 ^ (s + 7) := by
          have := Nat.mul_le_mul_right (2 ^ s) (show b % 128 ≤ 127 by omega)
          exact Nat.lt_of_le_of_lt (Nat.mod_le ..) (by rw [Nat.pow_add]; omega)
        rw [if_neg hb, ← Nat.pow_add 2 s 7] at h
        rw [ih (by omega) hacc' hat' (by omega) h, Nat.add_assoc, Nat.add_comm 1]

theorem readVar_enc {d : Bytes} {l i n : Nat} (hn : n < two64) (hat : At d i (encVar n))
    (hl : i + (encVar n).length ≤ l) : readVar d l i = .ok (n, i + (encVar n).length) := by
  rw [encVar_eq hn] at hat hl ⊢
  have h := V.varint_roundtrip n hn []
  rw [List.append_nil] at h
  exact readVarLoop_of_decVar (f := 10) (s := 0) (by decide) (by decide) hat hl h

theorem encVar_lt {t : Nat} (ht : t < 128) : encVar t = [t] :=
  (encVar_eq (Nat.lt_trans ht (by decide))).trans (V.encVar_lt t ht)

theorem readTag {d : Bytes} {l i t : Nat} (ht : t < 128) (hd : d[i]? = some t) (hl : i < l) :
    readVar d l i = .ok (t, i + 1) := by
  have h := readVar_enc (d := d) (l := l) (i := i) (Nat.lt_trans ht (by decide))
  rw [encVar_lt ht] at h
  exact h (At.cons.mpr ⟨hd, At.nil _ _⟩) hl

theorem slice_at {d : Bytes} {a : Nat} {bs : List Nat} (h : At d a bs) : slice d a (a + bs.length) = bs := by
  apply List.ext_getElem?
  intro j
  rw [slice, Array.getElem?_toList, Array.getElem?_extract]
  by_cases hj : j < bs.length
  · have hb := h.lt_size hj
    rw [if_pos (by omega), h j hj, List.getElem?_eq_getElem hj]
  · rw [if_neg (by omega), List.getElem?_eq_none (by omega)]

theorem sliceC_at {d : Bytes} {a : Nat} {bs : List Nat} (h : At d a bs) (hb : a + bs.length ≤ d.size) :
    sliceC d a (a + bs.length) = .ok bs := by
  rw [sliceC, if_pos ⟨Nat.le_add_right .., hb⟩, slice_at h]

section GoIntegerConversions

theorem lt64_of_lt32 {v : Nat} (h : v < two32) : v < two64 := Nat.lt_trans h (by decide)

theorem toInt64_small {n : Nat} (h : n < two63) : toInt64 n = (n : Int) := by
  have : n % two64 = n := Nat.mod_eq_of_lt (Nat.lt_trans h (by decide))
  simp only [toInt64, this, h, if_true]

theorem ofInt64_lt (x : Int) : ofInt64 x < two64 := by
  simp only [ofInt64, two64]; omega

theorem toInt64_ofInt64 {x : Int} (h : -(two63 : Int) ≤ x ∧ x < two63) : toInt64 (ofInt64 x) = x := by
  simp only [toInt64, ofInt64, two64, two63] at h ⊢
  omega

theorem toInt32_ofInt64 {x : Int} (h : -2147483648 ≤ x ∧ x < 2147483648) : toInt32 (ofInt64 x) = x := by
  simp only [toInt32, ofInt64, two64, two32]
  omega

end GoIntegerConversions

theorem payload_enc {d : Bytes} {i : Nat} {bs : List Nat} (hl63 : d.size < two63)
    (hat : At d i (encVar bs.length ++ bs)) (hl : i + (encVar bs.length ++ bs).length ≤ d.size) :
    readLen d d.size i = .ok (i + (encVar bs.length).length, i + (encVar bs.length ++ bs).length) ∧
    sliceC d (i + (encVar bs.length).length) (i + (encVar bs.length ++ bs).length) = .ok bs := by
  obtain ⟨h1, h2⟩ := At.append.mp hat
  rw [List.length_append, ← Nat.add_assoc] at hl ⊢
  refine ⟨?_, sliceC_at h2 hl⟩
  have hlen : bs.length < two63 := by omega
  rw [readLen, readVar_enc (Nat.lt_trans hlen (by decide)) h1 (by omega)]
  simp only [ok_bind, toInt64_small hlen, Int.toNat_natCast]
  rw [if_neg (Int.not_lt.mpr (Int.natCast_nonneg _)), if_neg (Nat.not_le.mpr (Nat.lt_of_le_of_lt hl hl63)),
    if_neg (Nat.not_lt.mpr hl)]
  rfl

end Fsm.W
