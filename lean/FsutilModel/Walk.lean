import FsutilModel.Order
/-! The pre-order walk of a tree whose directories list their children in
    bytewise name order is strictly ascending in `comparePath`. -/
namespace Fsm

inductive Node where
  | file : Node
  | dir : List (Path × Node) → Node

def joinP (pre n : Path) : Path := if pre = [] then n else pre ++ sep :: n

mutual
def walk (pre : Path) : Node → List Path
  | .file => []
  | .dir cs => walkList pre cs
def walkList (pre : Path) : List (Path × Node) → List Path
  | [] => []
  | (n, c) :: rest => joinP pre n :: (walk (joinP pre n) c ++ walkList pre rest)
end

def NameOK (n : Path) : Prop := n ≠ [] ∧ sep ∉ n

mutual
def WF : Node → Prop
  | .file => True
  | .dir cs => WFList cs
def WFList : List (Path × Node) → Prop
  | [] => True
  | (n, c) :: rest => NameOK n ∧ WF c ∧ WFList rest ∧ (∀ m ∈ rest.map (·.1), strLt n m = true)
end

theorem joinP_ne_nil (pre n : Path) (hn : n ≠ []) : joinP pre n ≠ [] := by
  unfold joinP; split <;> simp [hn]

theorem joinP_nil (n : Path) : joinP [] n = n := if_pos rfl

theorem joinP_of_ne_nil {pre : Path} (h : pre ≠ []) (n : Path) : joinP pre n = pre ++ sep :: n := if_neg h

theorem joinP_append (pre n r : Path) : joinP pre (n ++ r) = joinP pre n ++ r := by
  unfold joinP; split <;> simp

theorem cmp_joinP (pre a b : Path) : comparePath (joinP pre a) (joinP pre b) = comparePath a b := by
  unfold joinP
  split
  · rfl
  · exact (cmp_common_prefix pre _ _).trans (cmp_common_prefix [sep] a b)

mutual
theorem walk_under (pre : Path) (hp : pre ≠ []) : ∀ (t : Node), WF t → ∀ (x : Path), x ∈ walk pre t →
    ∃ r, x = pre ++ sep :: r
  | .file, _, x, h => by simp [walk] at h
  | .dir cs, hw, x, h => by
    obtain ⟨n, c, r, _, rfl, _⟩ := walkList_under pre cs hw x h
    exact ⟨n ++ r, by simp [joinP_of_ne_nil hp]⟩
theorem walkList_under (pre : Path) : ∀ (cs : List (Path × Node)), WFList cs → ∀ (x : Path), x ∈ walkList pre cs →
    ∃ n c r, (n, c) ∈ cs ∧ x = joinP pre n ++ r ∧ SepOrEnd r
  | [], _, x, h => by simp [walkList] at h
  | (n, c) :: rest, ⟨hn, hc, hrest, _⟩, x, h => by
    simp only [walkList, List.mem_cons, List.mem_append] at h
    rcases h with rfl | h | h
    · exact ⟨n, c, [], by simp, by simp, Or.inl rfl⟩
    · obtain ⟨r, rfl⟩ := walk_under (joinP pre n) (joinP_ne_nil pre n hn.1) c hc x h
      exact ⟨n, c, sep :: r, by simp, rfl, Or.inr ⟨r, rfl⟩⟩
    · obtain ⟨n', c', r, hm, hx⟩ := walkList_under pre rest hrest x h
      exact ⟨n', c', r, by simp [hm], hx⟩
end

theorem nameOK_of_mem : ∀ {l : List (Path × Node)}, WFList l → ∀ {n : Path} {c : Node}, (n, c) ∈ l → NameOK n
  | _ :: _, ⟨hn, _, hrest, _⟩, _, _, h => by
    rcases List.mem_cons.mp h with h | h
    · cases h; exact hn
    · exact nameOK_of_mem hrest h

theorem cmp_siblings (p n1 n2 r1 r2 : Path) (h1 : sep ∉ n1) (h2 : sep ∉ n2) (hlt : strLt n1 n2 = true)
    (s1 : SepOrEnd r1) (s2 : SepOrEnd r2) : comparePath (joinP p n1 ++ r1) (joinP p n2 ++ r2) < 0 := by
  have hne : n1 ≠ n2 := fun e => by rw [e, strLt_irrefl] at hlt; cases hlt
  rw [← joinP_append, ← joinP_append, cmp_joinP]
  exact (cmp_diff_comps n1 n2 r1 r2 h1 h2 hne s1 s2).mpr hlt

def Asc (l : List Path) : Prop := l.Pairwise (fun a b => comparePath a b < 0)

mutual
theorem walk_ascending (pre : Path) : ∀ (t : Node), WF t → Asc (walk pre t)
  | .file, _ => List.Pairwise.nil
  | .dir cs, hw => walkList_ascending pre cs hw
theorem walkList_ascending (pre : Path) : ∀ (cs : List (Path × Node)), WFList cs → Asc (walkList pre cs)
  | [], _ => List.Pairwise.nil
  | (n, c) :: rest, ⟨hn, hc, hrest, hsorted⟩ => by
    have hsib : ∀ r, SepOrEnd r → ∀ y ∈ walkList pre rest, comparePath (joinP pre n ++ r) y < 0 := by
      intro r hr y hy
      obtain ⟨n', c', r', hm, rfl, hr'⟩ := walkList_under pre rest hrest y hy
      exact cmp_siblings pre n n' r r' hn.2 (nameOK_of_mem hrest hm).2
        (hsorted n' (List.mem_map.mpr ⟨_, hm, rfl⟩)) hr hr'
    have hsub : ∀ x ∈ walk (joinP pre n) c, ∃ r, x = joinP pre n ++ sep :: r :=
      walk_under _ (joinP_ne_nil pre n hn.1) c hc
    simp only [walkList, Asc, List.pairwise_cons, List.pairwise_append, List.mem_append]
    refine ⟨?_, walk_ascending _ c hc, walkList_ascending pre rest hrest, ?_⟩
    · rintro y (hy | hy)
      · obtain ⟨r, rfl⟩ := hsub y hy
        exact cmp_parent_lt _ _
      · simpa using hsib [] (Or.inl rfl) y hy
    · intro x hx y hy
      obtain ⟨r, rfl⟩ := hsub x hx
      exact hsib _ (Or.inr ⟨r, rfl⟩) y hy
end

end Fsm
