import FsutilModel.Model.ValidatorB
import FsutilModel.PathFnProof
import FsutilModel.ValidatorProof
/-! The verbatim byte-level `HandleChange` (`vstep`) simulates the component-level `step`, and the byte-level specification
`specOk` is `specStep`, under the abstraction `comps` on paths and `bstOf` on stacks; hence `vrun true = specRun`. -/
namespace Fsm

theorem goSearchLoop_eq (f : Nat → Bool) (n k : Nat) (hlo : ∀ a, a < k → f a = false)
    (hhi : ∀ a, k ≤ a → a < n → f a = true) :
    ∀ fuel i j, j < i + fuel → i ≤ k → k ≤ j → j ≤ n → goSearchLoop f fuel i j = k := by
  intro fuel
  induction fuel with
  | zero => intro i j h hik hkj; exact absurd (Nat.le_trans hik hkj) (Nat.not_le_of_lt h)
  | succ fuel ih =>
    intro i j hfuel hik hkj hjn
    rw [goSearchLoop]
    by_cases hlt : i < j
    · have hm : i ≤ (i + j) / 2 ∧ (i + j) / 2 < j := by omega
      generalize (i + j) / 2 = m at hm
      have hmn : m < n := Nat.lt_of_lt_of_le hm.2 hjn
      cases hf : f m with
      | true =>
        have : k ≤ m := Nat.le_of_not_lt fun h => by rw [hlo m h] at hf; cases hf
        simpa [hlt, hf] using ih i m (Nat.lt_of_lt_of_le hm.2 (Nat.le_of_lt_succ hfuel)) hik this (Nat.le_of_lt hmn)
      | false =>
        have : m < k := Nat.lt_of_not_le fun h => by rw [hhi m h hmn] at hf; cases hf
        simpa [hlt, hf] using ih (m + 1) j (by omega) this hkj hjn
    · rw [if_neg hlt]; exact Nat.le_antisymm hik (Nat.le_trans hkj (Nat.le_of_not_lt hlt))

theorem goSearch_eq (f : Nat → Bool) (n k : Nat) (hk : k ≤ n) (hlo : ∀ a, a < k → f a = false)
    (hhi : ∀ a, k ≤ a → a < n → f a = true) : goSearch n f = k :=
  goSearchLoop_eq f n k hlo hhi (n + 1) 0 n (by rw [Nat.zero_add]; exact Nat.lt_succ_self n) (Nat.zero_le k) hk
    (Nat.le_refl n)

/-- `sort.Search` as `HandleChange` calls it, over a stack stored bottom first: index `n-1-i` is `i` frames below the top -/
theorem goSearch_rev {α : Type} {st l₁ l₂ : List α} (hst : st = (l₁ ++ l₂).reverse) (dflt : α) (p : α → Bool)
    (h₁ : ∀ x ∈ l₁, p x = false) (h₂ : ∀ x ∈ l₂, p x = true) :
    goSearch st.length (fun i => p (st.getD (st.length - 1 - i) dflt)) = l₁.length := by
  subst hst
  have hget : ∀ (l : List α) a (h : a < l.length), l.reverse.getD (l.reverse.length - 1 - a) dflt = l[a] := by
    intro l a h
    rw [List.getD_eq_getElem?_getD, List.getElem?_reverse' (j := a) (by rw [List.length_reverse]; omega),
      List.getElem?_eq_getElem h]
    rfl
  apply goSearch_eq
  · simp
  · intro a ha
    rw [hget _ a (by rw [List.length_append]; exact Nat.lt_add_right _ ha), List.getElem_append_left ha]
    exact h₁ _ (List.getElem_mem ha)
  · intro a hka han
    rw [List.length_reverse] at han
    rw [hget _ a han, List.getElem_append_right hka]
    exact h₂ _ (List.getElem_mem _)

/-- Go's `if i != n-1 { parentDirs = parentDirs[:i+1] }`: the guard only saves a slice expression that changes nothing -/
theorem take_succ_unless_last {α : Type} (l : List α) (i : Nat) :
    (if i ≠ l.length - 1 then l.take (i + 1) else l) = l.take (i + 1) := by
  split
  · rfl
  · rename_i h
    rw [Decidable.not_not.mp h, List.take_of_length_le (by omega)]

theorem take_rev {α : Type} {st l₁ l₂ : List α} (hst : st = (l₁ ++ l₂).reverse) (hne : l₂ ≠ []) :
    st.take (st.length - 1 - l₁.length + 1) = l₂.reverse := by
  subst hst
  have hlen : (l₁ ++ l₂).reverse.length - 1 - l₁.length + 1 = l₂.reverse.length := by
    have := List.length_pos_iff.mpr hne
    simp only [List.length_reverse, List.length_append]; omega
  rw [hlen, List.reverse_append, List.take_left' rfl]

theorem cleanRelB_iff (p : Path) : cleanRelB p = true ↔ isCleanRel true p := by
  have hpre : hasPrefixB dotdotSlash p = false ↔ ¬ ((dd ++ [sep]) <+: p) := by
    rw [← Bool.not_eq_true, hasPrefixB, List.isPrefixOf_iff_prefix]; rfl
  simp only [cleanRelB, isCleanRel, Bool.and_eq_true, decide_eq_true_eq, Bool.not_eq_true', hpre, forall_const, and_assoc]
  exact ⟨fun ⟨h1, h2, h3, h4, h5⟩ => ⟨h1.symm, h2, h5, h3, h4⟩, fun ⟨h1, h2, h5, h3, h4⟩ => ⟨h1.symm, h2, h3, h4, h5⟩⟩

theorem cleanRelB_iff_comps (p : Path) : cleanRelB p = true ↔ PlainComps (comps p) :=
  (cleanRelB_iff p).trans (isCleanRel_iff_comps p)

/-- the part of `HandleChange` after the lexical tests: a textual copy of the tail of `vstep`, kept one by `vstep_unfold` -/
def vsearch (st : List VFrame) (dir base : Path) (isDel isDir : Bool) : VRes :=
  let n := st.length
  let k := goSearch n (fun i => decide (comparePath ((st.getD (n-1-i) ⟨[], []⟩).dir) dir ≤ 0))
  if k ≥ n then .panic else
  let i := n - 1 - k
  let st1 := if i ≠ n - 1 then st.take (i+1) else st
  match st1.getLast? with
  | none => .panic
  | some top =>
    if dir ≠ top.dir || strGe top.last base then .reject else
    let st2 := st1.dropLast ++ [{ top with last := base }]
    if !isDel && isDir then .ok (st2 ++ [⟨joinB [dir, base], []⟩]) else .ok st2

theorem vstep_unfold (st : List VFrame) (isDel : Bool) (p : Path) (isDir : Bool) :
    vstep true st isDel p isDir =
      if p ≠ clean p then .reject else
      if isAbs p then .reject else
      if (p = [dot] || p = dd) then .reject else
      if parentOf p = dd || hasPrefixB dotdotSlash p then .reject else
      vsearch (if st = [] then [⟨[], []⟩] else st) (parentOf p) (baseB p) isDel isDir := by
  rfl

theorem cleanRelB_eq_true_iff (p : Path) : cleanRelB p = true ↔
    ¬ (p ≠ clean p ∨ isAbs p = true ∨ (decide (p = [dot]) || decide (p = dd)) = true ∨ hasPrefixB dotdotSlash p = true) := by
  simp [cleanRelB, and_assoc]

theorem vstep_eq (st : List VFrame) (isDel : Bool) (p : Path) (isDir : Bool) :
    vstep true st isDel p isDir =
      if cleanRelB p = true then vsearch (if st = [] then [⟨[], []⟩] else st) (parentOf p) (baseB p) isDel isDir
      else .reject := by
  rw [vstep_unfold]
  simp only [ite_ite_same, Bool.or_eq_true (decide (parentOf p = dd)), decide_eq_true_eq]
  by_cases hc : cleanRelB p = true
  · -- the test `parentOf p = ".."` is not among the lexical tests that make up `cleanRelB`, and cannot fire once they pass:
    -- the parent is then a join of plain components
    have hdd : parentOf p ≠ dd := by
      obtain ⟨init, b, _, hp, hpar, _⟩ := plain_split ((cleanRelB_iff_comps p).mp hc)
      rw [hpar]
      by_cases hi : init = []
      · simp [hi, joinSep]
      · exact ((plainComps_append.mp hp).1.ne_dot_dd hi).2
    rw [if_pos hc, if_neg]
    rw [cleanRelB_eq_true_iff] at hc
    simpa [hdd] using hc
  · rw [if_neg hc, if_pos]
    rw [cleanRelB_eq_true_iff, Decidable.not_not] at hc
    exact hc.imp_right (.imp_right (.imp_right .inr))

theorem cmp_joinSep_plain {a b : List Path} (ha : PlainComps a) (hb : PlainComps b) :
    comparePath (joinSep a) (joinSep b) < 0 ↔ compsLt a b = true := by
  by_cases hane : a = []
  · subst hane
    cases b with
    | nil => simp [joinSep, comparePath, compsLt]
    | cons d ds => simpa [joinSep, comparePath_nil_left, compsLt] using hb.joinSep_ne_nil (by simp)
  · by_cases hbne : b = []
    · subst hbne
      obtain ⟨c, cs, rfl⟩ := List.exists_cons_of_ne_nil hane
      simp [joinSep, comparePath_nil_right, compsLt]
    · exact cmp_joinSep a b ha.sepfree hb.sepfree hane hbne

theorem cmp_joinSep_le (a b : List Path) (ha : PlainComps a) (hb : PlainComps b) :
    decide (comparePath (joinSep a) (joinSep b) ≤ 0) = compsLeB a b := by
  have heq : comparePath (joinSep a) (joinSep b) = 0 ↔ a = b :=
    (comparePath_eq_zero _ _).trans ⟨joinSep_inj ha hb, congrArg joinSep⟩
  rw [Bool.eq_iff_iff, decide_eq_true_eq, Int.le_iff_eq_or_lt, heq, cmp_joinSep_plain ha hb, compsLeB_iff]

def toB (f : Frame) : VFrame := ⟨joinSep f.dir, f.last⟩
def bstOf (cst : List Frame) : List VFrame := (cst.map toB).reverse

def toEnt (c : Chg) : Ent := ⟨comps c.path, !c.isDel && c.isDir⟩

def Good (c : Chg) : Prop := PlainComps (comps c.path) ∧ c.path = joinSep (comps c.path)

theorem bstOf_cons (f : Frame) (fs : List Frame) : bstOf (f :: fs) = bstOf fs ++ [toB f] := by
  simp [bstOf]

theorem bstOf_ne_nil {cst : List Frame} (h : cst ≠ []) : bstOf cst ≠ [] := by
  simpa [bstOf] using h

theorem vsearch_sim (cst : List Frame) (hchain : Chain cst) (hpl : ∀ f ∈ cst, PlainComps f.dir)
    (init : List Path) (b : Path) (hp : PlainComps (init ++ [b])) (isDel isDir : Bool) :
    vsearch (bstOf cst) (joinSep init) b isDel isDir =
      match step cst ⟨init ++ [b], !isDel && isDir⟩ with
      | some cst' => .ok (bstOf cst')
      | none => .reject := by
  have hinit := (plainComps_append.mp hp).1
  -- `popTo` splits the stack; `≤ init` fails above the split and holds from there down
  obtain ⟨pre, hcst, hpre⟩ := popTo_split init cst
  have hkept := hchain.popTo_le init
  obtain ⟨f, fs, hpop⟩ := List.exists_cons_of_ne_nil (popTo_ne_nil hchain init)
  rw [hpop] at hcst hkept
  have hpred : ∀ g ∈ cst, decide (comparePath (toB g).dir (joinSep init) ≤ 0) = compsLeB g.dir init :=
    fun g hg => cmp_joinSep_le _ _ (hpl g hg) hinit
  have habove : ∀ v ∈ pre.map toB, decide (comparePath v.dir (joinSep init) ≤ 0) = false :=
    List.forall_mem_map.mpr fun g hg => (hpred g (by simp [hcst, hg])).trans (hpre g hg)
  have hbelow : ∀ v ∈ toB f :: fs.map toB, decide (comparePath v.dir (joinSep init) ≤ 0) = true :=
    (List.forall_mem_map (l := f :: fs)).mpr fun g hg =>
      (hpred g (hcst ▸ List.mem_append_right _ hg)).trans (hkept g hg)
  have hst : bstOf cst = (pre.map toB ++ toB f :: fs.map toB).reverse := by
    rw [hcst, bstOf, List.map_append, List.map_cons]
  have hfd : joinSep init ≠ (toB f).dir ↔ ¬ f.dir = init :=
    not_congr ⟨fun e => joinSep_inj (hpl f (by simp [hcst])) hinit e.symm, fun e => by rw [← e]; rfl⟩
  -- the search returns `pre.length`, which is below the height of the stack (`f` is there): no panic
  have hlen : ¬ (pre.map toB).length ≥ (bstOf cst).length := by
    rw [hst]; simp only [List.length_reverse, List.length_append, List.length_cons]; omega
  rw [step_snoc, hpop, vsearch]
  dsimp only
  rw [goSearch_rev hst ⟨[], []⟩ _ habove hbelow, if_neg hlen, take_succ_unless_last, take_rev hst (by simp)]
  simp only [List.reverse_cons, List.getLast?_concat, List.dropLast_concat]
  by_cases hd : f.dir = init
  · cases hlt : strLt f.last b with
    | false => simp [hd, hlt, strGe, toB]
    | true =>
      have hj := joinB_dir_base init b hp
      cases (!isDel && isDir) <;> simp [hd, hlt, strGe, toB, bstOf, hj]
  · simp [hfd.mpr hd, hd]

theorem vstep_sim {bst : List VFrame} {cst : List Frame} (hst : (if bst = [] then [⟨[], []⟩] else bst) = bstOf cst)
    (hchain : Chain cst) (hpl : ∀ f ∈ cst, PlainComps f.dir) (c : Chg) (hp : PlainComps (comps c.path)) :
    vstep true bst c.isDel c.path c.isDir =
      match step cst (toEnt c) with
      | some cst' => .ok (bstOf cst')
      | none => .reject := by
  obtain ⟨init, b, hib, hp', hpar, hbase⟩ := plain_split hp
  rw [vstep_eq, if_pos ((cleanRelB_iff_comps _).mpr hp), hst, hpar, hbase, toEnt, hib]
  exact vsearch_sim cst hchain hpl init b hp' c.isDel c.isDir

theorem specOk_iff (pre : List Chg) (x : Chg) : specOk pre x = true ↔
    cleanRelB x.path = true ∧ (∀ l, pre.getLast? = some l → comparePath l.path x.path < 0) ∧
      (parentOf x.path = [] ∨ ∃ y ∈ pre, y.path = parentOf x.path ∧ y.isDir = true ∧ y.isDel = false) := by
  unfold specOk
  cases pre.getLast? <;>
    simp only [Bool.and_eq_true, Bool.or_eq_true, decide_eq_true_eq, List.any_eq_true, Bool.not_eq_true', and_assoc,
      reduceCtorEq, false_implies, implies_true, true_and, Option.some.injEq, forall_eq']

theorem specRunFrom_accept_iff {cs pre0 : List Chg} {i : Nat} :
    specRunFrom pre0 i cs = .accept ↔ AtEverySplit (fun pre x => specOk (pre0 ++ pre) x = true) cs := by
  induction cs generalizing pre0 i with
  | nil => exact ⟨fun _ => atEverySplit_nil, fun _ => rfl⟩
  | cons c cs ih =>
    rw [specRunFrom, atEverySplit_cons, List.append_nil]
    by_cases hc : specOk pre0 c = true
    · rw [if_pos hc, ih]
      simp only [hc, true_and, List.append_assoc, List.singleton_append]
    · rw [if_neg hc]
      exact ⟨nofun, fun h => absurd h.1 hc⟩

theorem specRunFrom_ne_panic (j : Nat) : ∀ (cs pre : List Chg) (i : Nat), specRunFrom pre i cs ≠ .panicAt j := by
  intro cs
  induction cs with
  | nil => intro pre i; simp [specRunFrom]
  | cons c cs ih =>
    intro pre i
    rw [specRunFrom]
    split
    · exact ih _ _
    · simp

theorem specOk_iff_specStep (pre : List Chg) (x : Chg) (hx : cleanRelB x.path = true) :
    specOk pre x = true ↔ specStep (pre.map toEnt) (toEnt x) := by
  obtain ⟨init, b, hib, hp', hpar, _⟩ := plain_split ((cleanRelB_iff_comps _).mp hx)
  have hinit := (plainComps_append.mp hp').1
  rw [specOk_iff, specStep]
  simp only [hx, true_and, toEnt, hib, List.dropLast_concat, hpar]
  refine and_congr ?_ ?_
  · rw [List.getLast?_map]
    cases pre.getLast? with
    | none => simp
    | some l => simp only [Option.map_some, Option.some.injEq, forall_eq', toEnt, cmp_iff_comps, hib]
  · by_cases hi : init = []
    · simp [hi, joinSep]
    · have hj := fun p => eq_joinSep_iff p init hi hinit.sepfree
      simp only [hinit.joinSep_ne_nil hi, hi, false_or, List.mem_map]
      constructor
      · rintro ⟨y, hy, hyp, hyd, hydel⟩
        exact ⟨toEnt y, ⟨y, hy, rfl⟩, by simp [toEnt, hyd, hydel], (hj _).mp hyp⟩
      · rintro ⟨_, ⟨y, hy, rfl⟩, hyd, hyp⟩
        simp only [toEnt, Bool.and_eq_true, Bool.not_eq_true'] at hyd
        exact ⟨y, hy, (hj _).mpr hyp, hyd.2, hyd.1⟩

structure Sim (bst : List VFrame) (cst : List Frame) (pre : List Chg) : Prop where
  inv : Inv cst (pre.map toEnt)
  /-- `parentDirs` is made lazily at the first call (`make([]parent, 1, 10)`): the empty stack stands for the root frame -/
  stack : (if bst = [] then [⟨[], []⟩] else bst) = bstOf cst
  frames : ∀ f ∈ cst, PlainComps f.dir
  good : ∀ y ∈ pre, Good y ∧ comps y.path ≠ []

theorem vrunFrom_eq (cs : List Chg) : ∀ (bst : List VFrame) (cst : List Frame) (pre : List Chg) (i : Nat),
    Sim bst cst pre → vrunFrom true bst i cs = specRunFrom pre i cs := by
  induction cs with
  | nil => intro bst cst pre i _; simp [vrunFrom, specRunFrom]
  | cons c cs ih =>
    intro bst cst pre i hsim
    unfold vrunFrom specRunFrom
    by_cases hcl : cleanRelB c.path = true
    · have hp := (cleanRelB_iff_comps _).mp hcl
      have hxp : PlainPath (toEnt c).path := ⟨comps_ne_nil _, fun x hx => (hp x hx).1.1⟩
      have hspec := specOk_iff_specStep pre c hcl
      rw [vstep_sim hsim.stack hsim.inv.chain hsim.frames c hp]
      rcases step_sim hsim.inv (toEnt c) hxp with ⟨hs, hno⟩ | ⟨cst', hs, hyes, hinv'⟩
      · simp [hs, mt hspec.mp hno]
      · simp only [hs, hspec.mpr hyes, if_true]
        refine ih (bstOf cst') cst' (pre ++ [c]) (i + 1) ⟨by simpa using hinv', ?_, ?_, ?_⟩
        · simp [bstOf_ne_nil hinv'.chain.ne_nil]
        · obtain ⟨init, b, hib, _⟩ := plain_split hp
          rw [toEnt, hib] at hs
          intro g hg
          rcases step_snoc_dirs hs g hg with ⟨_, hgd⟩ | ⟨g', hg', e⟩
          · rw [hgd, ← hib]; exact hp
          · rw [← e]; exact hsim.frames g' hg'
        · intro y hy
          rcases List.mem_append.mp hy with hy | hy
          · exact hsim.good y hy
          · rw [List.mem_singleton.mp hy]; exact ⟨⟨hp, (joinSep_comps _).symm⟩, comps_ne_nil _⟩
    · have hno : specOk pre c = false := Bool.eq_false_iff.mpr fun h => hcl ((specOk_iff pre c).mp h).1
      rw [vstep_eq, if_neg hcl]
      simp [hno]

/-- The verbatim transcription of `Validator.HandleChange` accepts, and rejects at the same index as, the property's
specification, for every sequence of changes. It never reaches `panic`. -/
theorem vrun_eq_specRun (cs : List Chg) : vrun true cs = specRun cs := by
  unfold vrun specRun
  apply vrunFrom_eq cs [] [⟨[], []⟩] [] 0
  refine ⟨by simpa using inv_init, ?_, ?_, ?_⟩
  · simp [bstOf, toB, joinSep]
  · -- the only frame is the root, whose directory has no components
    intro f hf c hc
    rw [List.mem_singleton.mp hf] at hc
    cases hc
  · intro y hy; cases hy

theorem vrun_accept_iff {cs : List Chg} :
    vrun true cs = .accept ↔ ∀ pre x post, cs = pre ++ x :: post → specOk pre x = true := by
  rw [vrun_eq_specRun, specRun, specRunFrom_accept_iff]
  simp only [List.nil_append, AtEverySplit]

end Fsm
