/-! Soundness of the include-side directory pruning of filter.go,
    over an abstract per-pattern match predicate. -/
namespace Fsm.Pr

abbrev Path := List Nat

structure Pat where
  neg : Bool
  m : Path → Bool

/-- one pass of MatchesUsingParentResults with non-empty parent info:
    returns the per-pattern results and the verdict.  `go` carries the running `matched` flag. -/
def go : List Pat → List Bool → Path → Bool → Bool × List Bool
  | [], _, _, matched => (matched, [])
  | p :: ps, I, x, matched =>
    let pm := I.headD false
    let mt := if pm then true else if p.neg != matched then false else p.m x
    let matched' := if mt then !p.neg else matched
    let (v, rest) := go ps I.tail x matched'
    (v, mt :: rest)

def upr (ps : List Pat) (I : List Bool) (x : Path) : Bool × List Bool := go ps I x false

def mtOf (p : Pat) (a : Bool) (x : Path) (f : Bool) : Bool :=
  if a then true else if p.neg != f then false else p.m x
def flagOf (p : Pat) (a : Bool) (x : Path) (f : Bool) : Bool :=
  if mtOf p a x f then !p.neg else f

theorem go_cons (p : Pat) (ps : List Pat) (I : List Bool) (x : Path) (f : Bool) :
    go (p :: ps) I x f =
      ((go ps I.tail x (flagOf p (I.headD false) x f)).1,
        mtOf p (I.headD false) x f :: (go ps I.tail x (flagOf p (I.headD false) x f)).2) := rfl

theorem mtOf_iff {p : Pat} {a f : Bool} {x : Path} :
    mtOf p a x f = true ↔ a = true ∨ (p.neg = f ∧ p.m x = true) := by
  cases a <;> by_cases h : p.neg = f <;> simp [mtOf, h]

theorem go_length : ∀ ps I x f, (go ps I x f).2.length = ps.length
  | [], _, _, _ => rfl
  | p :: ps, I, x, f => by rw [go_cons]; simp [go_length ps]

theorem upr_length (ps : List Pat) (I : List Bool) (x : Path) : (upr ps I x).2.length = ps.length := go_length ..

/-- pointwise ≤ on result vectors -/
def Le : List Bool → List Bool → Prop
  | [], [] => True
  | a :: as, b :: bs => (a = true → b = true) ∧ Le as bs
  | _, _ => False

theorem Le_refl : ∀ l, Le l l
  | [] => trivial
  | _ :: as => ⟨id, Le_refl as⟩

theorem Le_trans : ∀ {a b c : List Bool}, Le a b → Le b c → Le a c
  | [], [], [], _, _ => trivial
  | _ :: _, _ :: _, _ :: _, h1, h2 => ⟨fun h => h2.1 (h1.1 h), Le_trans h1.2 h2.2⟩

theorem go_mono : ∀ ps I x mt, I.length = ps.length → Le I (go ps I x mt).2
  | [], [], _, _, _ => trivial
  | [], _ :: _, _, _, h => by simp at h
  | _ :: _, [], _, _, h => by simp at h
  | p :: ps, a :: as, x, mt, h =>
    ⟨fun ha => by simp [ha], go_mono ps as x _ (by simpa using h)⟩

/-- what a descendant may have matched, relative to the run at `d`:
    either `d` matched it too, or it is a negation, or the pattern also matches `d` itself -/
def Rel (d : Path) : List Pat → List Bool → List Bool → Prop
  | [], [], [] => True
  | p :: ps, a :: as, b :: bs => (b = true → a = true ∨ p.neg = true ∨ p.m d = true) ∧ Rel d ps as bs
  | _, _, _ => False

theorem Rel_refl (d : Path) : ∀ (ps : List Pat) (I : List Bool), I.length = ps.length → Rel d ps I I
  | [], [], _ => trivial
  | [], _ :: _, h => by simp at h
  | _ :: _, [], h => by simp at h
  | _ :: ps, _ :: as, h => ⟨Or.inl, Rel_refl d ps as (by simpa using h)⟩

theorem Rel_go (d q : Path) : ∀ (ps : List Pat) (A Iq : List Bool) (g : Bool), Rel d ps A Iq →
    (∀ p ∈ ps, p.neg = false → p.m q = true → p.m d = true) → Rel d ps A (go ps Iq q g).2
  | [], [], [], _, h, _ => h
  | p :: ps, a :: as, b :: bs, g, h, hS => by
    rw [go_cons]
    refine ⟨fun hm => ?_, Rel_go d q ps as bs _ h.2 fun p' hp' => hS p' (List.mem_cons_of_mem _ hp')⟩
    rcases mtOf_iff.mp hm with hb | ⟨_, hq⟩
    · exact h.1 hb
    · cases hn : p.neg with
      | true => exact Or.inr (Or.inl rfl)
      | false => exact Or.inr (Or.inr (hS p (List.mem_cons_self ..) hn hq))

theorem flagOf_le (p : Pat) (a b f g : Bool) (d q : Path)
    (hab : mtOf p a d f = true → b = true)
    (hba : b = true → mtOf p a d f = true ∨ p.neg = true ∨ p.m d = true)
    (hS : p.neg = false → p.m q = true → p.m d = true) (hgf : g = true → f = true) :
    flagOf p b q g = true → flagOf p a d f = true := by
  intro h
  unfold flagOf at h ⊢
  by_cases hd : mtOf p a d f = true
  · -- `d` matched it, so the parent bit below is set: both flags are `!p.neg`
    rw [if_pos hd]
    rwa [if_pos (mtOf_iff.mpr (Or.inl (hab hd)))] at h
  · rw [if_neg hd]
    by_cases hq : mtOf p b q g = true
    · rw [if_pos hq] at h
      have hpos : p.neg = false := by simpa using h
      -- a positive pattern matched below `d` (now or earlier) also matches `d` itself …
      have hmd : p.m d = true := by
        rcases mtOf_iff.mp hq with hb | ⟨_, hmq⟩
        · exact ((hba hb).resolve_left hd).resolve_left (by simp [hpos])
        · exact hS hpos hmq
      -- … so `d` skipped it, which happens only when the flag at `d` was already set
      cases hf : f with
      | true => rfl
      | false => exact absurd (mtOf_iff.mpr (Or.inr ⟨hpos.trans hf.symm, hmd⟩)) hd
    · rw [if_neg hq] at h
      exact hgf h

theorem go_verdict (d q : Path) : ∀ (ps : List Pat) (Ip Iq : List Bool) (f g : Bool),
    Le (go ps Ip d f).2 Iq → Rel d ps (go ps Ip d f).2 Iq →
    (∀ p ∈ ps, p.neg = false → p.m q = true → p.m d = true) → (g = true → f = true) →
    (go ps Iq q g).1 = true → (go ps Ip d f).1 = true := by
  intro ps
  induction ps with
  | nil => intro _ _ f g _ _ _ hK; exact hK
  | cons p ps ih =>
    intro Ip Iq f g hLe hRel hS hK
    cases Iq with
    | nil => exact hLe.elim
    | cons b bs =>
      rw [go_cons] at hLe hRel ⊢
      rw [go_cons]
      exact ih _ bs _ _ hLe.2 hRel.2 (fun p' hp' => hS p' (List.mem_cons_of_mem _ hp'))
        (flagOf_le p _ b f g d q hLe.1 hRel.1 (hS p (List.mem_cons_self ..)) hK)

theorem go_prune (d q : Path) :
    ∀ (ps : List Pat) (Ip Iq : List Bool) (f g : Bool),
      Ip.length = ps.length → Iq.length = ps.length →
      Le (go ps Ip d f).2 Iq → Rel d ps (go ps Ip d f).2 Iq →
      (∀ p ∈ ps, p.neg = false → p.m q = true → p.m d = true) →
      (g = true → f = true) →
      ((go ps Iq q g).1 = true → (go ps Ip d f).1 = true) ∧
      Le (go ps Ip d f).2 (go ps Iq q g).2 ∧ Rel d ps (go ps Ip d f).2 (go ps Iq q g).2 :=
  fun ps Ip Iq f g _ h2 hLe hRel hS hK =>
    ⟨go_verdict d q ps Ip Iq f g hLe hRel hS hK, Le_trans hLe (go_mono ps Iq q g h2), Rel_go d q ps _ Iq g hRel hS⟩

/-- Pruning theorem (include side).  Let `d` be a directory evaluated with parent info `Ip`,
    verdict `false`.  If every positive pattern that matches some path `q` of `Below` (any predicate; meant:
    the paths evaluated below `d`) also matches `d`, then every chain of paths of `Below`
    evaluated with parent results keeps verdict `false`: nothing below `d` is ever reported, so
    returning `SkipDir` at `d` is unobservable. -/
theorem prune_sound (ps : List Pat) (Ip : List Bool) (d : Path) (hIp : Ip.length = ps.length)
    (hv : (upr ps Ip d).1 = false)
    (Below : Path → Prop)
    (hS : ∀ q, Below q → ∀ p ∈ ps, p.neg = false → p.m q = true → p.m d = true) :
    ∀ (chain : List Path), (∀ q ∈ chain, Below q) →
      ∀ (Iq : List Bool), Iq.length = ps.length →
        Le (upr ps Ip d).2 Iq → Rel d ps (upr ps Ip d).2 Iq →
        ∀ q ∈ chain, True →
          (chain.foldl (fun (acc : List Bool × Bool) x =>
              let r := upr ps acc.1 x; (r.2, acc.2 || r.1)) (Iq, false)).2 = false := by
  intro chain hB Iq hIq hLe hRel _ _ _
  refine (List.foldlRecOn chain _ (motive := fun (acc : List Bool × Bool) => acc.1.length = ps.length ∧
    Le (upr ps Ip d).2 acc.1 ∧ Rel d ps (upr ps Ip d).2 acc.1 ∧ acc.2 = false) ⟨hIq, hLe, hRel, rfl⟩ ?_).2.2.2
  rintro ⟨I, _⟩ ⟨hI, hLe, hRel, rfl⟩ x hx
  obtain ⟨r1, r2, r3⟩ := go_prune d x ps Ip I false false hIp hI hLe hRel (hS x (hB x hx)) id
  exact ⟨go_length .., r2, r3, Bool.eq_false_iff.mpr fun h => Bool.eq_false_iff.mp hv (r1 h)⟩

theorem go_nil_fst (x : Path) : ∀ (ps : List Pat) (f : Bool), (go ps [] x f).1 = ps.foldl (fun f p => flagOf p false x f) f
  | [], _ => rfl
  | _ :: ps, _ => go_nil_fst x ps _

theorem flagOf_false (p : Pat) (x : Path) (f : Bool) :
    flagOf p false x f = if p.neg != f then f else if p.m x then !p.neg else f := by
  cases h : p.neg != f <;> simp [flagOf, mtOf, h]

theorem flagOf_noneg_mt {p : Pat} (hp : p.neg = false) (a f : Bool) (x : Path) :
    flagOf p a x f = (f || mtOf p a x f) := by
  cases f <;> cases a <;> simp [flagOf, mtOf, hp]

theorem flagOf_noneg {p : Pat} (hp : p.neg = false) (a f : Bool) (x : Path) :
    flagOf p a x f = (f || (a || p.m x)) := by
  cases f <;> cases a <;> simp [flagOf, mtOf, hp]

theorem go_noneg_any (x : Path) : ∀ (ps : List Pat) (I : List Bool) (f : Bool), (∀ p ∈ ps, p.neg = false) →
    (go ps I x f).1 = (f || (go ps I x f).2.any id)
  | [], _, f, _ => by simp [go]
  | p :: ps, I, f, hn => by
    rw [go_cons, go_noneg_any x ps _ _ fun p' hp' => hn p' (List.mem_cons_of_mem _ hp'),
      flagOf_noneg_mt (hn p (List.mem_cons_self ..)), List.any_cons, id, Bool.or_assoc]

/-- A parent vector shorter than the list counts as padded with `false`: the zero info. -/
theorem go_noneg_verdict (x : Path) : ∀ (ps : List Pat) (I : List Bool) (f : Bool), (∀ p ∈ ps, p.neg = false) →
    I.length ≤ ps.length → (go ps I x f).1 = (f || (I.any id || ps.any (·.m x)))
  | [], [], f, _, _ => by simp [go]
  | [], _ :: _, _, _, hl => absurd hl (Nat.not_succ_le_zero _)
  | p :: ps, I, f, hn, hl => by
    rw [go_cons, go_noneg_verdict x ps I.tail _ (fun p' hp' => hn p' (List.mem_cons_of_mem _ hp'))
      (by rw [List.length_tail]; exact Nat.sub_le_of_le_add hl), flagOf_noneg (hn p (List.mem_cons_self ..))]
    cases I <;> simp [Bool.or_assoc, Bool.or_left_comm]

end Fsm.Pr
