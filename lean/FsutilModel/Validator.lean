import FsutilModel.Lex
namespace Fsm

/-! Component-level validator: paths are lists of components; the stack of open directories (`Frame`s, top first)
has the shape `Chain`; `popTo` is the search for the parent directory. -/

structure Frame where
  dir : List Path
  last : Path
deriving DecidableEq

structure Ent where
  path : List Path
  isDir : Bool

def compsLeB (a b : List Path) : Bool := decide (a = b) || compsLt a b

def popTo (d : List Path) : List Frame → List Frame
  | [] => []
  | f :: fs => if compsLeB f.dir d then f :: fs else popTo d fs

/-- `[]` and paths ending in an empty component are rejected silently: `getLast?.getD []` makes `b = []`, and `strLt _ [] = false` -/
def step (st : List Frame) (e : Ent) : Option (List Frame) :=
  let d := e.path.dropLast
  let b := e.path.getLast?.getD []
  match popTo d st with
  | [] => none
  | f :: fs =>
    if f.dir = d ∧ strLt f.last b = true then
      let st' := { f with last := b } :: fs
      some (if e.isDir then ⟨e.path, []⟩ :: st' else st')
    else none

/-- the order is tested against the last entry only; the parent may be any earlier directory -/
def specStep (pre : List Ent) (x : Ent) : Prop :=
  (∀ l, pre.getLast? = some l → compsLt l.path x.path = true) ∧
  (x.path.dropLast = [] ∨ ∃ y ∈ pre, y.isDir = true ∧ y.path = x.path.dropLast)

def runFrom : List Frame → List Ent → Bool
  | _, [] => true
  | st, x :: xs => match step st x with
    | none => false
    | some st' => runFrom st' xs

def validFrom : List Ent → List Ent → Prop
  | _, [] => True
  | pre, x :: xs => specStep pre x ∧ validFrom (pre ++ [x]) xs

/-- the shape of the stack of open directories (top first): the bottom frame is the root, with `dir = []`; every other frame
is the directory named by the last child of the frame `g` below it, `dir = g.dir ++ [g.last]`, so that child exists
(`g.last ≠ []`: `last = []` stands for "no child yet", which only the top frame may have) -/
inductive Chain : List Frame → Prop
  | root (l : Path) : Chain [⟨[], l⟩]
  | push (f g : Frame) (rest : List Frame) :
      f.dir = g.dir ++ [g.last] → g.last ≠ [] → Chain (g :: rest) → Chain (f :: g :: rest)

theorem Chain.ne_nil {st} (h : Chain st) : st ≠ [] := by cases h <;> simp

theorem chain_cons_cons {f g : Frame} {rest : List Frame} :
    Chain (f :: g :: rest) ↔ f.dir = g.dir ++ [g.last] ∧ g.last ≠ [] ∧ Chain (g :: rest) :=
  ⟨fun h => by cases h with | push _ _ _ h1 h2 h3 => exact ⟨h1, h2, h3⟩, fun ⟨h1, h2, h3⟩ => .push _ _ _ h1 h2 h3⟩

theorem Chain.tail {f : Frame} {rest} (h : Chain (f :: rest)) (hr : rest ≠ []) : Chain rest := by
  cases h with
  | root l => exact absurd rfl hr
  | push _ g' rest' hdir hne hc => exact hc

theorem Chain.suffix {pre : List Frame} {f : Frame} {fs} (h : Chain (pre ++ f :: fs)) : Chain (f :: fs) := by
  induction pre with
  | nil => exact h
  | cons a pre ih => exact ih (h.tail (by simp))

theorem Chain.set_last {g : Frame} {fs} (h : Chain (g :: fs)) (b : Path) :
    Chain ({ g with last := b } :: fs) := by
  cases h with
  | root l => exact Chain.root b
  | push _ g' rest hdir hne hc => exact Chain.push _ g' rest hdir hne hc

theorem Chain.nontop {t : Frame} {rest} (h : Chain (t :: rest)) :
    ∀ g ∈ rest, g.last ≠ [] ∧ (g.dir ++ [g.last]) <+: t.dir := by
  induction rest generalizing t with
  | nil => intro g hg; cases hg
  | cons g' rest ih =>
    obtain ⟨hdir, hne, hc⟩ := chain_cons_cons.mp h
    intro g hg
    rw [hdir]
    rcases List.mem_cons.mp hg with rfl | hg
    · exact ⟨hne, List.prefix_refl _⟩
    · exact ⟨(ih hc g hg).1, (ih hc g hg).2.trans (List.prefix_append _ _)⟩

theorem Chain.nontop_last_ne {t : Frame} {rest} (h : Chain (t :: rest)) : ∀ g ∈ rest, g.last ≠ [] :=
  fun g hg => (h.nontop g hg).1

theorem Chain.child_prefix {t : Frame} {rest} (h : Chain (t :: rest)) :
    ∀ g ∈ rest, (g.dir ++ [g.last]) <+: t.dir :=
  fun g hg => (h.nontop g hg).2

theorem Chain.proper_prefix {f : Frame} {rest} (h : Chain (f :: rest)) :
    ∀ g ∈ rest, ∃ x t, f.dir = g.dir ++ x :: t := by
  intro g hg
  obtain ⟨u, hu⟩ := h.child_prefix g hg
  exact ⟨g.last, u, by rw [← hu]; simp⟩

theorem Chain.prefix_is_frame {f : Frame} {rest} (h : Chain (f :: rest)) :
    ∀ q, q <+: f.dir → ∃ g ∈ f :: rest, g.dir = q := by
  induction rest generalizing f with
  | nil => cases h with | root l => exact fun q hq => ⟨⟨[], l⟩, by simp, (List.prefix_nil.mp hq).symm⟩
  | cons g' rest ih =>
    obtain ⟨hdir, _, hc⟩ := chain_cons_cons.mp h
    intro q hq
    rw [hdir] at hq
    rcases List.prefix_concat_iff.mp hq with hq | hq
    · exact ⟨f, by simp, by rw [hdir, hq]⟩
    · obtain ⟨g, hg, hgd⟩ := ih hc q hq
      exact ⟨g, List.mem_cons_of_mem _ hg, hgd⟩

theorem Chain.has_root {st} (h : Chain st) : ∃ g ∈ st, g.dir = [] := by
  cases st with
  | nil => exact absurd rfl h.ne_nil
  | cons f rest => exact h.prefix_is_frame [] List.nil_prefix

theorem compsLeB_iff {a b : List Path} : compsLeB a b = true ↔ a = b ∨ compsLt a b = true := by
  simp [compsLeB]

theorem compsLeB_nil (d : List Path) : compsLeB [] d = true := by
  cases d <;> simp [compsLeB, compsLt]

theorem compsLeB_proper_prefix (d : List Path) (x : Path) (t : List Path) :
    compsLeB (d ++ x :: t) d = false := by
  simp [compsLeB, compsLt_asymm (compsLt_prefix d x t), List.append_right_eq_self]

theorem compsLeB_of_lt_of_le {g f d : List Path} (hgf : compsLt g f = true) (h : compsLeB f d = true) :
    compsLeB g d = true := by
  rw [compsLeB_iff] at h ⊢
  exact .inr (h.elim (fun e => e ▸ hgf) (compsLt_trans hgf))

theorem popTo_eq_dropWhile (d : List Path) (st : List Frame) :
    popTo d st = st.dropWhile (fun f => !compsLeB f.dir d) := by
  induction st with
  | nil => rfl
  | cons f fs ih => by_cases h : compsLeB f.dir d = true <;> simp [popTo, h, ih]

theorem popTo_split (d : List Path) (st : List Frame) :
    ∃ pre, st = pre ++ popTo d st ∧ ∀ g ∈ pre, compsLeB g.dir d = false :=
  ⟨st.takeWhile (fun f => !compsLeB f.dir d), by rw [popTo_eq_dropWhile, List.takeWhile_append_dropWhile],
    fun g hg => by simpa using List.all_eq_true.mp List.all_takeWhile g hg⟩

theorem popTo_subset {d : List Path} {st : List Frame} : ∀ g ∈ popTo d st, g ∈ st := by
  obtain ⟨pre, h, _⟩ := popTo_split d st
  intro g hg; rw [h]; exact List.mem_append_right _ hg

theorem Chain.of_popTo {st} (h : Chain st) {d : List Path} {f : Frame} {fs} (hp : popTo d st = f :: fs) :
    Chain (f :: fs) := by
  obtain ⟨pre, hst, _⟩ := popTo_split d st
  rw [hp] at hst; rw [hst] at h; exact h.suffix

theorem popTo_head {d : List Path} {st : List Frame} {f : Frame} {fs} (h : popTo d st = f :: fs) :
    compsLeB f.dir d = true := by
  have := List.head?_dropWhile_not (fun f => !compsLeB f.dir d) st
  rw [← popTo_eq_dropWhile, h] at this
  simpa using this

theorem popTo_ne_nil {st} (h : Chain st) (d : List Path) : popTo d st ≠ [] := by
  induction h with
  | root l => simp [popTo, compsLeB_nil]
  | push f g rest hdir hne hc ih =>
    simp only [popTo]
    split
    · simp
    · exact ih

theorem Chain.popTo_le {st} (h : Chain st) (d : List Path) : ∀ g ∈ popTo d st, compsLeB g.dir d = true := by
  obtain ⟨f, fs, hpop⟩ := List.exists_cons_of_ne_nil (popTo_ne_nil h d)
  rw [hpop]
  -- the first kept frame passed the test; the frames below it are proper prefixes of it
  refine List.forall_mem_cons.mpr ⟨popTo_head hpop, fun g hg => ?_⟩
  obtain ⟨x, t, hx⟩ := (h.of_popTo hpop).proper_prefix g hg
  exact compsLeB_of_lt_of_le (hx ▸ compsLt_prefix g.dir x t) (popTo_head hpop)

theorem popTo_finds {st} (h : Chain st) (d : List Path) (g : Frame) (hg : g ∈ st) (hd : g.dir = d) :
    ∃ fs, popTo d st = g :: fs ∧ Chain (g :: fs) := by
  have hgd : compsLeB g.dir d = true := compsLeB_iff.mpr (.inl hd)
  obtain ⟨pre, hst, hpre⟩ := popTo_split d st
  obtain ⟨f, fs, hpop⟩ := List.exists_cons_of_ne_nil (popTo_ne_nil h d)
  have hc := h.of_popTo hpop
  -- g is not among the dropped frames, and not below the first kept one, whose dir would be longer than d
  rw [hst, hpop] at hg
  rcases List.mem_append.mp hg with hg | hg
  · rw [hpre g hg] at hgd; cases hgd
  · rcases List.mem_cons.mp hg with rfl | hg
    · exact ⟨fs, hpop, hc⟩
    · obtain ⟨x, t, hx⟩ := hc.proper_prefix g hg
      have := popTo_head hpop
      rw [hx, hd, compsLeB_proper_prefix] at this; cases this

theorem step_snoc (st : List Frame) (d : List Path) (b : Path) (isDir : Bool) :
    step st ⟨d ++ [b], isDir⟩ =
      match popTo d st with
      | [] => none
      | f :: fs =>
        if f.dir = d ∧ strLt f.last b = true then
          some (if isDir then ⟨d ++ [b], []⟩ :: { f with last := b } :: fs else { f with last := b } :: fs)
        else none := by
  simp [step]

theorem step_snoc_some {st : List Frame} {d : List Path} {b : Path} {isDir : Bool} {st' : List Frame} :
    step st ⟨d ++ [b], isDir⟩ = some st' ↔
      ∃ f fs, popTo d st = f :: fs ∧ f.dir = d ∧ strLt f.last b = true ∧
        st' = if isDir then ⟨d ++ [b], []⟩ :: { f with last := b } :: fs else { f with last := b } :: fs := by
  rw [step_snoc]
  cases popTo d st with
  | nil => simp
  | cons f fs =>
    simp only [Option.ite_none_right_eq_some, Option.some.injEq, List.cons.injEq]
    constructor
    · rintro ⟨⟨h1, h2⟩, rfl⟩; exact ⟨f, fs, ⟨rfl, rfl⟩, h1, h2, rfl⟩
    · rintro ⟨_, _, ⟨rfl, rfl⟩, h1, h2, rfl⟩; exact ⟨⟨h1, h2⟩, rfl⟩

theorem step_snoc_dirs {st : List Frame} {d : List Path} {b : Path} {isDir : Bool} {st' : List Frame}
    (h : step st ⟨d ++ [b], isDir⟩ = some st') :
    ∀ g ∈ st', (isDir = true ∧ g.dir = d ++ [b]) ∨ ∃ g' ∈ st, g'.dir = g.dir := by
  obtain ⟨f, fs, hpop, _, _, rfl⟩ := step_snoc_some.mp h
  intro g hg
  have : (isDir = true ∧ g = ⟨d ++ [b], []⟩) ∨ g = { f with last := b } ∨ g ∈ fs := by
    cases isDir <;> simpa using hg
  rcases this with ⟨h1, rfl⟩ | rfl | hg
  · exact .inl ⟨h1, rfl⟩
  · exact .inr ⟨f, popTo_subset f (hpop ▸ List.mem_cons_self ..), rfl⟩
  · exact .inr ⟨g, popTo_subset g (hpop ▸ List.mem_cons_of_mem _ hg), rfl⟩

end Fsm
