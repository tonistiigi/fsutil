import FsutilModel.Model.WalkB
/-! The tree `buildTree` makes of a snapshot's paths. It is well-formed, so `walk_ascending` applies to the executable walk
order of every snapshot; and its walk lists the snapshot's paths and the directories above them, nothing else. -/
namespace Fsm

theorem walk_eq_children (pre : Path) (n : Node) : walk pre n = walkList pre (childrenOf n) := by
  cases n <;> simp [walk, childrenOf, walkList]

theorem walkList_append (pre : Path) : ∀ (l1 l2 : List (Path × Node)),
    walkList pre (l1 ++ l2) = walkList pre l1 ++ walkList pre l2
  | [], _ => rfl
  | (n, c) :: l1, l2 => by simp [walkList, walkList_append pre l1 l2]

theorem WF_childrenOf {n : Node} (h : WF n) : WFList (childrenOf n) := by
  cases n with
  | file => trivial
  | dir cs => exact h

/-- `o`: the child named `c` that the insertion replaces, `none` if it adds one -/
theorem insertSorted_split (c : Path) (f : Option Node → Node) : ∀ (L : List (Path × Node)),
    ∃ l1 o l2, L = l1 ++ o.toList.map (Prod.mk c) ++ l2 ∧ insertSorted c f L = l1 ++ (c, f o) :: l2
  | [] => ⟨[], none, [], rfl, rfl⟩
  | (n, x) :: rest => by
    unfold insertSorted
    split
    · next h => subst h; exact ⟨[], some x, rest, rfl, rfl⟩
    · split
      · exact ⟨[], none, (n, x) :: rest, rfl, rfl⟩
      · obtain ⟨l1, o, l2, h1, h2⟩ := insertSorted_split c f rest
        exact ⟨(n, x) :: l1, o, l2, congrArg _ h1, congrArg _ h2⟩

theorem insertSorted_names (c : Path) (f : Option Node → Node) (cs : List (Path × Node)) (m : Path)
    (h : m ∈ (insertSorted c f cs).map (·.1)) : m = c ∨ m ∈ cs.map (·.1) := by
  obtain ⟨l1, o, l2, h1, h2⟩ := insertSorted_split c f cs
  rw [h2] at h
  rw [h1]
  simp only [List.map_append, List.map_cons, List.mem_append, List.mem_cons] at h ⊢
  rcases h with h | h | h
  · exact Or.inr (Or.inl (Or.inl h))
  · exact Or.inl h
  · exact Or.inr (Or.inr h)

theorem insertSorted_WF (c : Path) (hc : NameOK c) (f : Option Node → Node)
    (hf0 : WF (f none)) (hf1 : ∀ x, WF x → WF (f (some x))) :
    ∀ (cs : List (Path × Node)), WFList cs → WFList (insertSorted c f cs)
  | [], _ => ⟨hc, hf0, trivial, by simp⟩
  | (n, x) :: rest, ⟨hn, hx, hrest, hlt⟩ => by
    unfold insertSorted
    split
    · exact ⟨hn, hf1 x hx, hrest, hlt⟩
    · next hne =>
      split
      · next hcn =>
        exact ⟨hc, hf0, ⟨hn, hx, hrest, hlt⟩, List.forall_mem_cons.mpr ⟨hcn, fun m hm => strLt_trans hcn (hlt m hm)⟩⟩
      · next hncn =>
        refine ⟨hn, hx, insertSorted_WF c hc f hf0 hf1 rest hrest, fun m hm => ?_⟩
        rcases insertSorted_names c f rest m hm with rfl | hm'
        · exact ((strLt_total n m).resolve_left hne).resolve_right hncn
        · exact hlt m hm'

theorem insertPath_WF : ∀ (cs : List Path) (n : Node), (∀ c ∈ cs, NameOK c) → WF n → WF (insertPath cs n)
  | [], _, _, h => h
  | c :: rest, _, hcs, h =>
    have hrest : ∀ x ∈ rest, NameOK x := fun x hx => hcs x (List.mem_cons_of_mem _ hx)
    insertSorted_WF c (hcs c (List.mem_cons_self ..)) _ (insertPath_WF rest (.dir []) hrest trivial)
      (fun x hx => insertPath_WF rest x hrest hx) _ (WF_childrenOf h)

theorem buildTree_WF (paths : List Path) (h : ∀ p ∈ paths, ∀ c ∈ comps p, NameOK c) : WF (buildTree paths) :=
  List.foldlRecOn paths _ (motive := WF) trivial fun t ht p hp => insertPath_WF (comps p) t (h p hp) ht

/-- the paths of the successive initial segments of `cs` below `pre`: `pre/c₁`, `pre/c₁/c₂`, … -/
def pathsAlong (pre : Path) : List Path → List Path
  | [] => []
  | c :: cs => joinP pre c :: pathsAlong (joinP pre c) cs

theorem mem_walkList_mid (pre : Path) (l1 l2 : List (Path × Node)) (c : Path) (m : Node) (x : Path) :
    x ∈ walkList pre (l1 ++ (c, m) :: l2) ↔
      x ∈ walkList pre (l1 ++ l2) ∨ x = joinP pre c ∨ x ∈ walk (joinP pre c) m := by
  simp only [walkList_append, walkList, List.mem_append, List.mem_cons]
  exact (or_congr_right or_rotate.symm).trans or_assoc.symm

theorem mem_walk_insertPath : ∀ (cs : List Path) (n : Node) (pre x : Path),
    x ∈ walk pre (insertPath cs n) ↔ x ∈ walk pre n ∨ x ∈ pathsAlong pre cs
  | [], n, pre, x => by simp [insertPath, pathsAlong]
  | c :: rest, n, pre, x => by
    obtain ⟨l1, o, l2, hL, hI⟩ := insertSorted_split c (fun o => insertPath rest (o.getD (.dir []))) (childrenOf n)
    rw [insertPath, walk, hI, mem_walkList_mid, mem_walk_insertPath rest, walk_eq_children pre n, hL, pathsAlong,
      List.mem_cons]
    cases o with
    | none => simp [walk, walkList]
    | some m =>
      simp only [Option.toList, List.map, List.append_assoc, List.singleton_append, mem_walkList_mid, Option.getD]
      exact (or_congr_right or_or_distrib_left).trans or_assoc.symm

theorem insertPath_keeps : ∀ (cs : List Path) (n : Node) (pre x : Path), x ∈ walk pre n → x ∈ walk pre (insertPath cs n) :=
  fun cs n pre x h => (mem_walk_insertPath cs n pre x).mpr (Or.inl h)

theorem joinP_joinSep (pre c : Path) (hc : c ≠ []) (d : Path) (ds : List Path) :
    joinP (joinP pre c) (joinSep (d :: ds)) = joinP pre (joinSep (c :: d :: ds)) := by
  rw [joinSep_cons_cons, joinP_append, joinP_of_ne_nil (joinP_ne_nil pre c hc)]

theorem pathsAlong_last : ∀ (cs : List Path), cs ≠ [] → (∀ c ∈ cs, c ≠ []) → ∀ (pre : Path),
    joinP pre (joinSep cs) ∈ pathsAlong pre cs
  | [], h, _, _ => absurd rfl h
  | [c], _, _, _ => List.mem_singleton.mpr rfl
  | c :: d :: ds, _, h, pre => by
    rw [← joinP_joinSep pre c (h c (List.mem_cons_self ..))]
    exact List.mem_cons_of_mem _
      (pathsAlong_last (d :: ds) (List.cons_ne_nil _ _) (fun e he => h e (List.mem_cons_of_mem _ he)) _)

theorem insertPath_lists : ∀ (cs : List Path), cs ≠ [] → (∀ c ∈ cs, NameOK c) → ∀ (n : Node) (pre : Path),
    joinP pre (joinSep cs) ∈ walk pre (insertPath cs n) :=
  fun cs hne hok n pre =>
    (mem_walk_insertPath cs n pre _).mpr (Or.inr (pathsAlong_last cs hne (fun c hc => (hok c hc).1) pre))

theorem pathsAlong_above : ∀ (cs : List Path), (∀ c ∈ cs, c ≠ []) → ∀ (pre x : Path), x ∈ pathsAlong pre cs →
    x = joinP pre (joinSep cs) ∨ ∃ r, joinP pre (joinSep cs) = x ++ sep :: r
  | [], _, _, _, hx => nomatch hx
  | [c], _, _, _, hx => Or.inl (List.mem_singleton.mp hx)
  | c :: d :: ds, h, pre, x, hx => by
    rcases List.mem_cons.mp hx with rfl | hx
    · exact Or.inr ⟨joinSep (d :: ds), by rw [joinSep_cons_cons, joinP_append]⟩
    · rw [← joinP_joinSep pre c (h c (List.mem_cons_self ..))]
      exact pathsAlong_above (d :: ds) (fun e he => h e (List.mem_cons_of_mem _ he)) _ x hx

theorem mem_walk_buildTree (paths : List Path) (x : Path) :
    x ∈ walk [] (buildTree paths) ↔ ∃ p ∈ paths, x ∈ pathsAlong [] (comps p) := by
  have : ∀ (ps : List Path) (t : Node), x ∈ walk [] (ps.foldl (fun t p => insertPath (comps p) t) t) ↔
      x ∈ walk [] t ∨ ∃ p ∈ ps, x ∈ pathsAlong [] (comps p) := by
    intro ps
    induction ps with
    | nil => simp
    | cons p ps ih => intro t; simp [ih, mem_walk_insertPath, or_assoc]
  simpa [buildTree, walk, walkList] using this paths (.dir [])

end Fsm
