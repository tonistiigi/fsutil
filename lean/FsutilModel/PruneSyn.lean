import FsutilModel.Path
/-! From Go's syntactic prune test to the semantic condition S of `Pr.go_verdict`,
    for the pattern shapes the code counts as "prefix only"; and the F9 witness. -/
namespace Fsm.PS

inductive Shape
  | exact (t : Path)        -- t
  | star (t : Path)         -- t/*
  | dstar (t : Path)        -- t/**
  | starDstar (t : Path)    -- t/*/**   (mis-classified by the double trim, unrepaired (F9))

/-- the matcher (moby's translation) on these shapes -/
def m : Shape → Path → Bool
  | .exact t, q => q == t
  | .star t, q => (t ++ [sep]).isPrefixOf q && !((q.drop (t.length + 1)).contains sep)
  | .dstar t, q => (t ++ [sep]).isPrefixOf q
  | .starDstar t, q => (t ++ [sep]).isPrefixOf q && (q.drop (t.length + 1)).contains sep

/-- text minus ONE trailing glob (the repaired `patternWithoutTrailingGlob`); `none` = has a metacharacter -/
def base1 : Shape → Option Path
  | .exact t | .star t | .dstar t => some t
  | .starDstar _ => none
/-- unrepaired (F9): both suffixes trimmed -/
def base2 : Shape → Option Path
  | .exact t | .star t | .dstar t | .starDstar t => some t

def under (d q : Path) : Bool := (d ++ [sep]).isPrefixOf q

/-- Go's test: keep walking `d` iff base/ starts with d/ -/
def keepWalking (b : Path) (d : Path) : Bool := (d ++ [sep]).isPrefixOf (b ++ [sep])

theorem base_above {t d q : Path} (hk : keepWalking t d = false) (hu : under d q = true) (ht : t ++ [sep] <+: q) :
    t ++ [sep] <+: d := by
  have hk' : ¬ d ++ [sep] <+: t ++ [sep] := by
    rw [← List.isPrefixOf_iff_prefix]; exact ne_true_of_eq_false hk
  rcases List.prefix_or_prefix_of_prefix (List.isPrefixOf_iff_prefix.mp hu) ht with h | h
  · exact absurd h hk'
  · exact (List.prefix_concat_iff.mp h).resolve_left fun e => hk' (e ▸ List.prefix_refl _)

/-- with the single trim, a pruned directory satisfies the semantic condition S for the pattern -/
theorem prune_syn_sound (s : Shape) (t : Path) (hb : base1 s = some t) (d : Path) (hsep : sep ∉ ([] : Path))
    (hk : keepWalking t d = false) :
    ∀ q, under d q = true → m s q = true → m s d = true := by
  intro q hu hm
  cases s with
  | exact t' =>
    -- `q` is `t` itself, so `d/` would be a prefix of `t`
    obtain rfl : t' = t := by simpa [base1] using hb
    obtain rfl : q = t' := by simpa [m] using hm
    have := (List.isPrefixOf_iff_prefix.mp hu).trans (List.prefix_append q [sep])
    rw [keepWalking, List.isPrefixOf_iff_prefix.mpr this] at hk
    cases hk
  | star t' =>
    -- `d = t/r`, so `q = t/r/w` has a separator after `t/`
    obtain rfl : t' = t := by simpa [base1] using hb
    simp only [m, Bool.and_eq_true, List.isPrefixOf_iff_prefix] at hm
    obtain ⟨r, rfl⟩ := base_above hk hu hm.1
    obtain ⟨w, rfl⟩ := List.isPrefixOf_iff_prefix.mp hu
    simp at hm
  | dstar t' =>
    obtain rfl : t' = t := by simpa [base1] using hb
    exact List.isPrefixOf_iff_prefix.mpr (base_above hk hu (List.isPrefixOf_iff_prefix.mp hm))
  | starDstar t' => simp [base1] at hb

/-- F9, kernel-checked: with the double trim, `a/*/**` is treated as the literal `a`; the directory `a/x`
    is pruned although `a/x/y` matches and `a/x` does not -/
theorem f9_witness :
    let s := Shape.starDstar [97]            -- "a/*/**"
    let d : Path := [97, 47, 120]            -- "a/x"
    let q : Path := [97, 47, 120, 47, 121]   -- "a/x/y"
    base2 s = some [97] ∧ keepWalking [97] d = false ∧ under d q = true ∧ m s q = true ∧ m s d = false := by
  decide

end Fsm.PS
