import FsutilModel.WireStat
/-! Round trip of the transcribed `types.Packet` codec (with the nested Stat message), and what the frame reader of
util/protostream.go does on a stream of frames. -/
namespace Fsm.W

structure PPacket.WF (p : PPacket) : Prop where
  type : -2147483648 ≤ p.type ∧ p.type < 2147483648
  stat : ∀ st, p.stat = some st → st.WF
  id : p.id < two32
  data : p.data ≠ some []
  unknown : p.unknown = []

section
variable {d : Bytes} (hl63 : d.size < two63)
include hl63

/-- the nested message is decoded from its sub-slice as a buffer of its own (its limit is its own length), so
`stat_roundtrip` applies as it stands -/
theorem nestedStatField_enc {i : Nat} {st : PStat} (hwf : st.WF) {m : PPacket} (hm : m.stat = none)
    (hat : At d i (encVar (marshalStat st).length ++ marshalStat st))
    (hl : i + (encVar (marshalStat st).length ++ marshalStat st).length ≤ d.size) :
    nestedStatField d d.size i 2 m = .ok (i + (encVar (marshalStat st).length ++ marshalStat st).length, { m with stat := some st }) := by
  obtain ⟨h1, h2⟩ := payload_enc hl63 hat hl
  have hsub := stat_roundtrip st hwf (by rw [List.length_append] at hl; omega)
  rw [unmarshalStat] at hsub
  rw [nestedStatField, h1]
  simp only [ok_bind, h2, hm, Option.getD_none, hsub]
  rfl

theorem reads_marshalPacket {p : PPacket} (hwf : p.WF) : Reads packetField d (marshalPacket p) {} p := by
  obtain ⟨ptype, pstat, pid, pdata, punk⟩ := p
  rw [marshalPacket, show punk = [] from hwf.unknown, List.append_nil]
  simp only [List.append_assoc]
  refine .append (.varField (k := fun m v => { m with type := toInt32 v }) (by decide) (ofInt64_lt _) (fun _ _ => rfl) rfl) ?_
  refine .append (?_ : Reads _ _ _ _ { type := toInt32 (ofInt64 ptype), stat := pstat }) ?_
  · cases pstat with
    | none => exact .nil _
    | some st =>
      exact .tagged (by decide) fun i hat hl =>
        show nestedStatField d d.size (i + 1) 2 _ = _ from nestedStatField_enc hl63 (hwf.stat st rfl) rfl hat hl
  refine .append (.varField (k := fun m v => { m with id := v % two32 }) (by decide) (lt64_of_lt32 hwf.id) (fun _ _ => rfl) rfl) ?_
  refine Reads.congr ?_ (by rw [toInt32_ofInt64 hwf.type, Nat.mod_eq_of_lt hwf.id] :
    ({ type := toInt32 (ofInt64 ptype), stat := pstat, id := pid % two32, data := pdata } : PPacket) = _)
  cases pdata with
  | none => exact .nil _
  | some bs =>
    -- `data = some []` is excluded: the encoder would leave the field out and the decoder return `none`
    rw [Option.getD_some]
    exact .bytesField (k := fun (m : PPacket) dt => { m with data := some dt }) (by decide) hl63 (fun _ _ => rfl)
      fun e => absurd (congrArg some e) hwf.data

end

theorem packet_roundtrip (p : PPacket) (hwf : p.WF) (hlen : (marshalPacket p).length < two63) :
    unmarshalPacket (marshalPacket p) = .ok p := by
  rw [unmarshalPacket, unmarshalPacketLoop_eq]
  exact (reads_marshalPacket (by simpa using hlen) hwf).decode

theorem ofBe32_be32 {n : Nat} (h : n < 4294967296) : ofBe32 (be32 n) = n := by
  have h1 : n / 65536 = n / 256 / 256 := by rw [Nat.div_div_eq_div_mul]
  have h2 : n / 16777216 = n / 256 / 256 / 256 := by rw [Nat.div_div_eq_div_mul, Nat.div_div_eq_div_mul]
  simp only [be32, ofBe32, h1, h2]; omega

theorem recvAll_nil (fuel : Nat) : recvAll fuel [] = some [] := by
  cases fuel <;> rfl

theorem recvAll_frame {m : List Nat} (hm : m.length < 4294967296) (fuel : Nat) (rest : List Nat) :
    recvAll (fuel + 1) (frame m ++ rest) = (recvAll fuel rest).map (m :: ·) := by
  have htake : (frame m ++ rest).take 4 = be32 m.length := rfl
  have hdrop : (frame m ++ rest).drop 4 = m ++ rest := rfl
  rw [recvAll, if_neg (by simp [frame, be32]), if_neg (by simp [frame, be32])]
  simp only [htake, hdrop, ofBe32_be32 hm]
  rw [if_neg (by simp), List.drop_left, List.take_left]
  cases recvAll fuel rest <;> rfl

theorem recvAll_sendAll (msgs : List (List Nat)) (h : ∀ m ∈ msgs, m.length < 4294967296) (fuel : Nat)
    (hf : msgs.length < fuel) : recvAll fuel (sendAll msgs) = some msgs := by
  induction msgs generalizing fuel with
  | nil => exact recvAll_nil fuel
  | cons m ms ih =>
    obtain ⟨f, rfl⟩ := Nat.exists_eq_add_one_of_ne_zero (Nat.ne_zero_of_lt hf)
    have hrec := ih (fun x hx => h x (List.mem_cons_of_mem _ hx)) f (Nat.lt_of_succ_lt_succ hf)
    rw [sendAll, List.flatMap_cons, ← sendAll, recvAll_frame (h m List.mem_cons_self), hrec]
    rfl

end Fsm.W
