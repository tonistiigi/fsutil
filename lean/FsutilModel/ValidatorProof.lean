import FsutilModel.Basic
import FsutilModel.Validator
namespace Fsm

/-! The component-level validator accepts exactly what the specification accepts, by the invariant `Inv` between the stack
and the accepted prefix. -/

/-- the last accepted path, read off the top frame. An entry with an empty component would be taken for the sentinel
`last = []`, which is why the theorems ask for `PlainPath`. -/
def lpOf : List Frame → List Path
  | [] => []
  | f :: _ => if f.last = [] then f.dir else f.dir ++ [f.last]

/-- the stack `st` after the accepted entries `pre` (oldest first) -/
structure Inv (st : List Frame) (pre : List Ent) : Prop where
  chain : Chain st
  lp : ∀ l, pre.getLast? = some l → lpOf st = l.path
  /-- in `spec_step_accept`: the parent found is not the entry accepted last if the top frame has a child -/
  fresh : ∀ f fs, st = f :: fs → (f.last = [] ↔ (pre = [] ∨ ∃ l, pre.getLast? = some l ∧ l.isDir = true))
  opened : ∀ g ∈ st, g.dir ≠ [] → ∃ y ∈ pre, y.isDir = true ∧ y.path = g.dir
  sorted : pre.Pairwise (fun a b => compsLt a.path b.path = true)

def PlainPath (p : List Path) : Prop := p ≠ [] ∧ ∀ c ∈ p, c ≠ []

theorem inv_init : Inv [⟨[], []⟩] [] where
  chain := .root _
  lp := by simp
  fresh := by rintro f fs h; cases h; simp
  opened := by intro g hg hne; rw [List.mem_singleton.mp hg] at hne; exact absurd rfl hne
  sorted := .nil

theorem PlainPath.snoc {p : List Path} (h : PlainPath p) : ∃ d b, p = d ++ [b] ∧ b ≠ [] :=
  ⟨p.dropLast, p.getLast h.1, (List.dropLast_concat_getLast h.1).symm, h.2 _ (List.getLast_mem h.1)⟩

theorem lpOf_fresh {f : Frame} {fs : List Frame} (h : f.last = []) : lpOf (f :: fs) = f.dir := if_pos h

theorem lpOf_last {f : Frame} {fs : List Frame} (h : f.last ≠ []) : lpOf (f :: fs) = f.dir ++ [f.last] := if_neg h

theorem lpOf_of_mem {st : List Frame} (hc : Chain st) {g : Frame} (hg : g ∈ st) (hl : g.last ≠ []) :
    ∃ u, lpOf st = g.dir ++ g.last :: u := by
  obtain ⟨t, rest, rfl⟩ := List.exists_cons_of_ne_nil hc.ne_nil
  rcases List.mem_cons.mp hg with rfl | hg
  · exact ⟨[], lpOf_last hl⟩
  · obtain ⟨u, hu⟩ := hc.child_prefix g hg
    by_cases ht : t.last = []
    · exact ⟨u, by rw [lpOf_fresh ht, ← hu]; simp⟩
    · exact ⟨u ++ [t.last], by rw [lpOf_last ht, ← hu]; simp⟩

theorem lp_lt_iff {st : List Frame} (hc : Chain st) {g : Frame} (hg : g ∈ st) {b : Path} (hb : b ≠ []) :
    compsLt (lpOf st) (g.dir ++ [b]) = true ↔ strLt g.last b = true := by
  by_cases hl : g.last = []
  · obtain ⟨t, rest, rfl⟩ := List.exists_cons_of_ne_nil hc.ne_nil
    rcases List.mem_cons.mp hg with rfl | hg
    · simp [lpOf_fresh hl, hl, compsLt_prefix, strLt_nil_left hb]
    · exact absurd hl (hc.nontop_last_ne g hg)
  · obtain ⟨u, hu⟩ := lpOf_of_mem hc hg hl
    rw [hu]; exact compsLt_append_singleton _ _ _ _

theorem Inv.pre_ne_nil {st pre} (hinv : Inv st pre) {g : Frame} (hg : g ∈ st) (hl : g.last ≠ []) : pre ≠ [] := by
  rintro rfl
  -- nothing was opened, so the stack is the root frame, and `fresh` says it has no last child
  obtain ⟨t, rest, rfl⟩ := List.exists_cons_of_ne_nil hinv.chain.ne_nil
  cases rest with
  | nil => rw [List.mem_singleton.mp hg] at hl; exact hl ((hinv.fresh t [] rfl).mpr (.inl rfl))
  | cons g' rest =>
    obtain ⟨y, hy, _⟩ := hinv.opened t (by simp) (by rw [(chain_cons_cons.mp hinv.chain).1]; simp)
    cases hy

theorem step_accept_spec {st pre} (hinv : Inv st pre) (x : Ent) (hx : PlainPath x.path)
    {st'} (hs : step st x = some st') : specStep pre x := by
  obtain ⟨p, isDir⟩ := x
  obtain ⟨d, b, rfl, hb⟩ := hx.snoc
  obtain ⟨f, fs, hpop, rfl, hlt, _⟩ := step_snoc_some.mp hs
  have hf : f ∈ st := popTo_subset (d := f.dir) f (by simp [hpop])
  refine ⟨fun l hl => ?_, ?_⟩
  · rw [← hinv.lp l hl]; exact (lp_lt_iff hinv.chain hf hb).mpr hlt
  · simp only [List.dropLast_concat]
    by_cases hd : f.dir = []
    · exact .inl hd
    · exact .inr (hinv.opened f hf hd)

theorem spec_step_accept {st pre} (hinv : Inv st pre) (x : Ent) (hx : PlainPath x.path)
    (hspec : specStep pre x) : ∃ st', step st x = some st' := by
  obtain ⟨p, isDir⟩ := x
  obtain ⟨d, b, rfl, hb⟩ := hx.snoc
  obtain ⟨hord, hpar⟩ := hspec
  simp only [List.dropLast_concat] at hpar hord
  obtain ⟨g, hg, rfl⟩ : ∃ g ∈ st, g.dir = d := by
    rcases hpar with hd | ⟨y, hy, hyd, rfl⟩
    · rw [hd]; exact hinv.chain.has_root
    · -- y.path ≤ last accepted path < y.path ++ [b]: it is a prefix of the last accepted path
      obtain ⟨l, hl⟩ : ∃ l, pre.getLast? = some l :=
        ⟨_, List.getLast?_eq_some_getLast (List.ne_nil_of_mem hy)⟩
      have hyl := pairwise_last hinv.sorted hl y hy
      have hpre : y.path <+: lpOf st := by
        rw [hinv.lp l hl]
        exact prefix_of_between _ _ b (hyl.imp (congrArg Ent.path) id) (hord l hl)
      obtain ⟨t, rest, rfl⟩ := List.exists_cons_of_ne_nil hinv.chain.ne_nil
      by_cases htl : t.last = []
      · exact hinv.chain.prefix_is_frame _ (lpOf_fresh htl ▸ hpre)
      · rw [lpOf_last htl] at hpre
        rcases List.prefix_concat_iff.mp hpre with he | hp
        · -- y.path is the last accepted path, so y is the last entry: a directory, pushed with no last child
          exfalso
          have : y = l := hyl.resolve_right (by rw [he, ← lpOf_last htl, hinv.lp l hl, compsLt_irrefl]; simp)
          exact htl ((hinv.fresh t rest rfl).mpr (.inr ⟨l, hl, this ▸ hyd⟩))
        · exact hinv.chain.prefix_is_frame _ hp
  obtain ⟨fs, hpop, _⟩ := popTo_finds hinv.chain _ g hg rfl
  have hlt : strLt g.last b = true := by
    by_cases hgl : g.last = []
    · rw [hgl]; exact strLt_nil_left hb
    · obtain ⟨l, hl⟩ : ∃ l, pre.getLast? = some l :=
        ⟨_, List.getLast?_eq_some_getLast (hinv.pre_ne_nil hg hgl)⟩
      exact (lp_lt_iff hinv.chain hg hb).mp (by rw [hinv.lp l hl]; exact hord l hl)
  exact ⟨_, step_snoc_some.mpr ⟨g, fs, hpop, rfl, hlt, rfl⟩⟩

theorem step_inv {st pre} (hinv : Inv st pre) (x : Ent) (hx : PlainPath x.path)
    {st'} (hs : step st x = some st') : Inv st' (pre ++ [x]) := by
  have hspec := step_accept_spec hinv x hx hs
  have hsorted := pairwise_concat (r := fun a b : Ent => compsLt a.path b.path = true) compsLt_trans hinv.sorted hspec.1
  obtain ⟨p, isDir⟩ := x
  obtain ⟨d, b, rfl, hb⟩ := hx.snoc
  have hopened : ∀ g ∈ st', g.dir ≠ [] → ∃ y ∈ pre ++ [⟨d ++ [b], isDir⟩], y.isDir = true ∧ y.path = g.dir := by
    intro g hg hne
    rcases step_snoc_dirs hs g hg with ⟨hd, hgd⟩ | ⟨g', hg', e⟩
    · exact ⟨⟨d ++ [b], isDir⟩, by simp, hd, hgd.symm⟩
    · obtain ⟨y, hy, h1, h2⟩ := hinv.opened g' hg' (e ▸ hne)
      exact ⟨y, by simp [hy], h1, h2.trans e⟩
  obtain ⟨f, fs, hpop, rfl, hlt, rfl⟩ := step_snoc_some.mp hs
  have hchain := (hinv.chain.of_popTo hpop).set_last b
  refine ⟨?_, ?_, ?_, hopened, hsorted⟩
  · cases isDir
    · exact hchain
    · exact .push _ _ _ rfl hb hchain
  · intro l hl
    obtain rfl : ⟨f.dir ++ [b], isDir⟩ = l := by simpa using hl
    cases isDir
    · exact lpOf_last hb
    · exact lpOf_fresh rfl
  · intro t ts e
    cases isDir
    · cases e; simp [hb]
    · cases e; simp

theorem step_sim {st pre} (hinv : Inv st pre) (x : Ent) (hx : PlainPath x.path) :
    (step st x = none ∧ ¬ specStep pre x) ∨ ∃ st', step st x = some st' ∧ specStep pre x ∧ Inv st' (pre ++ [x]) := by
  cases hs : step st x with
  | none => exact .inl ⟨rfl, fun hspec => by simpa [hs] using spec_step_accept hinv x hx hspec⟩
  | some st' => exact .inr ⟨st', rfl, step_accept_spec hinv x hx hs, step_inv hinv x hx hs⟩

theorem run_iff_valid {st pre} (hinv : Inv st pre) (xs : List Ent) (hx : ∀ x ∈ xs, PlainPath x.path) :
    runFrom st xs = true ↔ validFrom pre xs := by
  induction xs generalizing st pre with
  | nil => simp [runFrom, validFrom]
  | cons x xs ih =>
    simp only [runFrom, validFrom]
    rcases step_sim hinv x (hx x (by simp)) with ⟨hs, hno⟩ | ⟨st', hs, hspec, hinv'⟩
    · simp [hs, hno]
    · simp only [hs, hspec, true_and]
      exact ih hinv' fun y hy => hx y (by simp [hy])

/-- the component-level C12 statement: the validator accepts exactly the valid sequences -/
theorem validator_iff_spec (xs : List Ent) (hx : ∀ x ∈ xs, PlainPath x.path) :
    runFrom [⟨[], []⟩] xs = true ↔ validFrom [] xs :=
  run_iff_valid inv_init xs hx

end Fsm
