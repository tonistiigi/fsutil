import FsutilModel.MetaOnly
import FsutilModel.Model.MetaOnlyB
/-! The executable byte-level model `metaStep` of the metadata-only receive, taken apart: what one STAT does to each
component of the state. -/
namespace Fsm

/-- the stack/forwarded part of `metaStep` in its branch `Fix.f6b = true` (a selected directory is forwarded once).  `Fix.f6b`
is `true`, and the `rfl`s of `metaStep_entry` evaluate it: with the repair turned off they fail -/
def fwdStep (sel : Path → Bool) (s : List StatE × List StatE) (e : StatE) : List StatE × List StatE :=
  let st0 := popToB (dirB e.path) s.1
  if sel e.path then ([], s.2 ++ st0.reverse ++ [e])
  else (if e.isDir then e :: st0 else st0, s.2)

theorem metaStep_name (fixed : Bool) (sel : Path → Bool) (s : MetaSt) {e : StatE} (h : e.path = metaNameB) :
    metaStep fixed sel s e = if fixed then { s with i := s.i + 1 } else s := by
  rw [metaStep, if_pos h]

theorem metaStep_entry (fixed : Bool) (sel : Path → Bool) (s : MetaSt) {e : StatE} (h : e.path ≠ metaNameB) :
    metaStep fixed sel s e =
      { i := s.i + 1
        files := if sel e.path && e.canRequestData then s.files ++ [(e.path, s.i)] else s.files
        stack := (fwdStep sel (s.stack, s.forwarded) e).1
        forwarded := (fwdStep sel (s.stack, s.forwarded) e).2
        listing := s.listing ++ [e] } := by
  rw [metaStep, if_neg h]
  unfold fwdStep
  cases sel e.path <;> cases e.isDir <;> cases e.canRequestData <;> rfl

theorem foldl_metaStep (fixed : Bool) (sel : Path → Bool) : ∀ (es : List StatE) (s : MetaSt),
    (es.foldl (metaStep fixed sel) s).listing = s.listing ++ es.filter (fun e => e.path ≠ metaNameB) ∧
    ((es.foldl (metaStep fixed sel) s).stack, (es.foldl (metaStep fixed sel) s).forwarded) =
      (es.filter (fun e => e.path ≠ metaNameB)).foldl (fwdStep sel) (s.stack, s.forwarded)
  | [], s => by simp
  | e :: es, s => by
    obtain ⟨h1, h2⟩ := foldl_metaStep fixed sel es (metaStep fixed sel s e)
    rw [List.foldl_cons, h1, h2]
    by_cases h : e.path = metaNameB
    · rw [metaStep_name fixed sel s h]
      cases fixed <;> simp [h]
    · rw [metaStep_entry fixed sel s h]
      simp [h]

theorem files_selected (fixed : Bool) (sel : Path → Bool) : ∀ (es : List StatE) (s : MetaSt),
    (∀ pn ∈ s.files, sel pn.1 = true) → ∀ pn ∈ (es.foldl (metaStep fixed sel) s).files, sel pn.1 = true := by
  intro es s h
  refine List.foldlRecOn es _ (motive := fun s : MetaSt => ∀ pn ∈ s.files, sel pn.1 = true) h fun s h e _ => ?_
  by_cases hm : e.path = metaNameB
  · rw [metaStep_name fixed sel s hm]
    cases fixed <;> exact h
  · rw [metaStep_entry fixed sel s hm]
    refine iteInduction (motive := fun fs : List (Path × Nat) => ∀ pn ∈ fs, sel pn.1 = true) (fun hr => ?_) fun _ => h
    exact List.forall_mem_append.mpr ⟨h, List.forall_mem_singleton.mpr ((Bool.and_eq_true _ _).mp hr).1⟩

theorem metaRun_ids (fixed : Bool) (sel : Path → Bool) (es : List StatE) (h : ∀ e ∈ es, fixed = true ∨ e.path ≠ metaNameB) :
    ∀ p n, (p, n) ∈ (metaRun fixed sel es).files → ∃ e, es[n]? = some e ∧ e.path = p :=
  (M.IdInv.run (metaStep fixed sel) (·.i) (·.files) _ (fun s e hadv => by
    by_cases hm : e.path = metaNameB
    · rw [metaStep_name fixed sel s hm, hadv.resolve_right (not_not_intro hm)]
      exact ⟨false, rfl, rfl⟩
    · rw [metaStep_entry fixed sel s hm]
      exact ⟨_, rfl, rfl⟩) es [] {} M.IdInv.nil h).ok

end Fsm
