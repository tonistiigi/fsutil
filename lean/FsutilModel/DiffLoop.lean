import FsutilModel.Basic
import FsutilModel.Diff
/-! What the definitions of Diff.lean do (`same`, `PathOrd`, `applyEv`, `toMap`); the listing predicates `Before`,
`Sorted`, `Valid`; and how the merge loop `diff` runs: one induction principle with a case per branch of the loop
(`diff_induct`), and its form for strictly ascending listings (`diff_induct_sorted`), where every turn consumes the
least remaining path. -/
namespace Fsm.D

theorem same_iff {P I : Type} [DecidableEq I] {a b : Ent P I} :
    same a b = true ↔ a.isDir = b.isDir ∧ a.id = b.id := by
  simp [same]

theorem same_self {P I : Type} [DecidableEq I] (a : Ent P I) : same a a = true :=
  same_iff.mpr ⟨rfl, rfl⟩

theorem eq_of_same {P I : Type} [DecidableEq I] {a b : Ent P I} (hp : a.path = b.path) (hs : same a b = true) :
    a = b := by
  have ⟨hd, hi⟩ := same_iff.mp hs
  -- an entry is its three fields
  show Ent.mk a.path a.isDir a.id = Ent.mk b.path b.isDir b.id
  rw [hp, hd, hi]

variable {P : Type} [DecidableEq P] {I : Type}

namespace PathOrd

theorem lt_asymm (O : PathOrd P) {a b : P} (h : O.lt a b = true) : O.lt b a = false := by
  cases hb : O.lt b a with
  | false => rfl
  | true => have := O.lt_trans a b a h hb; rw [O.lt_irrefl] at this; cases this

theorem lt_ne (O : PathOrd P) {a b : P} (h : O.lt a b = true) : a ≠ b := by
  intro e; subst e; rw [O.lt_irrefl] at h; cases h

theorem eq_of_not_lt (O : PathOrd P) {a b : P} (h1 : ¬ O.lt a b = true) (h2 : ¬ O.lt b a = true) : a = b :=
  (O.lt_total a b).elim id fun h => h.elim (absurd · h1) (absurd · h2)

theorem not_under_of_lt (O : PathOrd P) {p q : P} (h : O.lt q p = true) : O.under p q = false :=
  Bool.eq_false_iff.mpr fun hu => Bool.false_ne_true ((O.lt_asymm h).symm.trans (O.under_lt _ _ hu))

end PathOrd

theorem applyEv_delete (O : PathOrd P) (t : TMap P I) (p q : P) :
    applyEv O t (.delete p) q = if q = p ∨ O.under p q = true then none else t q := rfl

theorem applyEv_add (O : PathOrd P) (t : TMap P I) (e : Ent P I) (q : P) :
    applyEv O t (.add e) q = if q = e.path then some e
      else if (O.under e.path q && (match t e.path with | some o => o.isDir != e.isDir | none => false)) = true
      then none else t q := rfl

theorem applyEv_modify (O : PathOrd P) (t : TMap P I) (e : Ent P I) :
    applyEv O t (.modify e) = applyEv O t (.add e) := rfl

theorem toMap_cons (x : Ent P I) (xs : List (Ent P I)) (q : P) :
    toMap (x :: xs) q = if x.path = q then some x else toMap xs q := by
  simp only [toMap, List.find?_cons]
  by_cases h : x.path = q <;> simp [h]

theorem toMap_eq_none {xs : List (Ent P I)} {q : P} : toMap xs q = none ↔ ∀ x ∈ xs, x.path ≠ q :=
  find?_key_none

theorem toMap_some_mem {xs : List (Ent P I)} {q : P} {e : Ent P I} (h : toMap xs q = some e) :
    e ∈ xs ∧ e.path = q :=
  find?_key_some h

def Before (O : PathOrd P) (q : P) (ls us : List (Ent P I)) : Prop :=
  (∀ l ∈ ls, O.lt q l.path = true) ∧ (∀ u ∈ us, O.lt q u.path = true)

variable {O : PathOrd P} {q : P} {ls us xs : List (Ent P I)}

theorem Before.ne_left (h : Before O q ls us) {l : Ent P I} (hl : l ∈ ls) : q ≠ l.path :=
  O.lt_ne (h.1 l hl)

theorem Before.ne_right (h : Before O q ls us) {u : Ent P I} (hu : u ∈ us) : q ≠ u.path :=
  O.lt_ne (h.2 u hu)

theorem Before.mono {ls' us' : List (Ent P I)} (h : Before O q ls' us') (hl : ls ⊆ ls') (hu : us ⊆ us') : Before O q ls us :=
  ⟨fun l m => h.1 l (hl m), fun u m => h.2 u (hu m)⟩

theorem not_before_left {l : Ent P I} (h : l ∈ ls) : ¬ Before O l.path ls us :=
  fun hB => hB.ne_left h rfl

theorem not_before_right {u : Ent P I} (h : u ∈ us) : ¬ Before O u.path ls us :=
  fun hB => hB.ne_right h rfl

def Sorted (O : PathOrd P) (xs : List (Ent P I)) : Prop :=
  xs.Pairwise (fun a b => O.lt a.path b.path = true)

structure Valid (O : PathOrd P) (xs : List (Ent P I)) : Prop where
  sorted : Sorted O xs
  closed : ∀ x ∈ xs, ∀ p, O.under p x.path = true → ∃ d ∈ xs, d.path = p ∧ d.isDir = true

theorem Sorted.head {x : Ent P I} (h : Sorted O (x :: xs)) :
    ∀ y ∈ xs, O.lt x.path y.path = true :=
  (List.pairwise_cons.mp h).1

theorem Sorted.tail {x : Ent P I} (h : Sorted O (x :: xs)) : Sorted O xs :=
  (List.pairwise_cons.mp h).2

theorem Sorted.lt_of_head (h : Sorted O xs) (hq : ∀ x ∈ xs.head?, O.lt q x.path = true) :
    ∀ x ∈ xs, O.lt q x.path = true := by
  cases xs with
  | nil => exact List.forall_mem_nil _
  | cons y ys =>
    have hy : O.lt q y.path = true := hq y rfl
    exact List.forall_mem_cons.mpr ⟨hy, fun x hx => O.lt_trans _ _ _ hy (h.head x hx)⟩

theorem Sorted.append_right {xs₀ : List (Ent P I)} (h : Sorted O (xs₀ ++ xs)) : Sorted O xs :=
  (List.pairwise_append.mp h).2.1

theorem toMap_mem (hs : Sorted O xs) {e : Ent P I} (he : e ∈ xs) :
    toMap xs e.path = some e := by
  induction xs with
  | nil => cases he
  | cons x xs ih =>
    rw [toMap_cons]
    rcases List.mem_cons.mp he with rfl | he
    · exact if_pos rfl
    · rw [if_neg (O.lt_ne (hs.head e he))]
      exact ih hs.tail he

variable [DecidableEq I]

theorem diff_induct (O : PathOrd P) (fc : Bool)
    {motive : Nat → List (Ent P I) → List (Ent P I) → Option P → List (Ev P I) → Prop}
    (stop : ∀ {ls us rm}, motive 0 ls us rm [])
    (done : ∀ {n rm}, motive (n + 1) [] [] rm [])
    (skip : ∀ {n ls us d} l, (∀ u ∈ us.head?, O.lt l.path u.path = true) → O.under d l.path = true →
      motive n ls us (some d) (diff O fc n ls us (some d)) →
      motive (n + 1) (l :: ls) us (some d) (diff O fc n ls us (some d)))
    -- of `rmdir`, `del` keeps only that its new value, if set, is `l.path`: not that the old value does not cover `l`,
    -- nor that the new one is set only when `l` is a directory and the old one was unset
    (del : ∀ {n ls us rm rm'} l, (∀ u ∈ us.head?, O.lt l.path u.path = true) → (∀ d, rm' = some d → d = l.path) →
      motive n ls us rm' (diff O fc n ls us rm') →
      motive (n + 1) (l :: ls) us rm (.delete l.path :: diff O fc n ls us rm'))
    (add : ∀ {n ls us rm} u, (∀ l ∈ ls.head?, O.lt u.path l.path = true) →
      motive n ls us none (diff O fc n ls us none) →
      motive (n + 1) ls (u :: us) rm (.add u :: diff O fc n ls us none))
    (keep : ∀ {n ls us rm} l u, l.path = u.path → fc = false → same l u = true →
      motive n ls us none (diff O fc n ls us none) →
      motive (n + 1) (l :: ls) (u :: us) rm (diff O fc n ls us none))
    (modify : ∀ {n ls us rm rm'} l u, l.path = u.path → (fc = true ∨ same l u = false) →
      rm' = (if l.isDir && !u.isDir then some l.path else none) →
      motive n ls us rm' (diff O fc n ls us rm') →
      motive (n + 1) (l :: ls) (u :: us) rm (.modify u :: diff O fc n ls us rm')) :
    ∀ n ls us rm, motive n ls us rm (diff O fc n ls us rm) := by
  have hdir : ∀ l : Ent P I, ∀ d, (if l.isDir = true then some l.path else none) = some d → d = l.path :=
    fun l d h => (Option.ite_some_none_eq_some.mp h).2.symm
  -- the cases of `diff.induct_unfolding` are the branches of `diff` from top to bottom
  refine diff.induct_unfolding O fc motive (fun _ _ _ => stop) (fun _ _ => done) ?_ ?_ ?_ ?_ ?_ ?_ ?_ ?_ ?_ ?_
  -- the old listing is used up
  · exact fun _ u _ _ ih => add u (by simp) ih
  -- the new listing is used up: `l` under `rm = some d`; not under it; `rm = none`
  · exact fun _ l _ _ hd ih => skip l (by simp) hd ih
  · exact fun _ l _ _ _ ih => del l (by simp) nofun ih
  · exact fun _ l _ ih => del l (by simp) (hdir l) ih
  -- `h1 : l` below `u`, the same three
  · exact fun _ l _ _ _ h1 _ hd ih => skip l (by simpa using h1) hd ih
  · exact fun _ l _ _ _ h1 _ _ ih => del l (by simpa using h1) nofun ih
  · exact fun _ l _ _ _ h1 ih => del l (by simpa using h1) (hdir l) ih
  -- `h2 : u` below `l`
  · exact fun _ _ _ u _ _ _ h2 ih => add u (by simpa using h2) ih
  -- neither below the other, `sameFile` says unchanged
  · intro n l ls u us rm h1 h2 rm' hs ih
    have hs : fc = false ∧ same l u = true := by simpa using hs
    have hrm : rm' = none := by simp [rm', (same_iff.mp hs.2).1]
    rw [hrm] at ih ⊢
    exact keep l u (O.eq_of_not_lt h1 h2) hs.1 hs.2 ih
  -- neither below the other, changed or differencing off
  · intro n l ls u us rm h1 h2 rm' hs ih
    have hs : fc = true ∨ same l u = false := by
      cases fc
      · exact .inr (by simpa using hs)
      · exact .inl rfl
    exact modify l u (O.eq_of_not_lt h1 h2) hs rfl ih

/-- Two premises in one: enough fuel, or a motive that holds of no events. The second is for `delete_mem_only` and
`diff_ascending`, which are stated for every fuel; short of fuel the loop may stop anywhere. -/
theorem diff_induct_sorted (O : PathOrd P) (fc : Bool)
    {motive : List (Ent P I) → List (Ent P I) → Option P → List (Ev P I) → Prop}
    (done : ∀ {rm}, motive [] [] rm [])
    (skip : ∀ {n ls us d} l, Before O l.path ls us → O.under d l.path = true →
      motive ls us (some d) (diff O fc n ls us (some d)) → motive (l :: ls) us (some d) (diff O fc n ls us (some d)))
    (del : ∀ {n ls us rm rm'} l, Before O l.path ls us → (∀ d, rm' = some d → d = l.path) →
      motive ls us rm' (diff O fc n ls us rm') → motive (l :: ls) us rm (.delete l.path :: diff O fc n ls us rm'))
    (add : ∀ {n ls us rm} u, Before O u.path ls us →
      motive ls us none (diff O fc n ls us none) → motive ls (u :: us) rm (.add u :: diff O fc n ls us none))
    (keep : ∀ {n ls us rm} l u, l.path = u.path → Before O u.path ls us → fc = false → same l u = true →
      motive ls us none (diff O fc n ls us none) → motive (l :: ls) (u :: us) rm (diff O fc n ls us none))
    (modify : ∀ {n ls us rm rm'} l u, l.path = u.path → Before O u.path ls us →
      (fc = true ∨ same l u = false) → rm' = (if l.isDir && !u.isDir then some l.path else none) →
      motive ls us rm' (diff O fc n ls us rm') → motive (l :: ls) (u :: us) rm (.modify u :: diff O fc n ls us rm')) :
    ∀ n ls us rm, Sorted O ls → Sorted O us → (ls.length + us.length < n ∨ ∀ ls us rm, motive ls us rm []) →
      motive ls us rm (diff O fc n ls us rm) := by
  refine diff_induct O fc
    (motive := fun n ls us rm r => Sorted O ls → Sorted O us →
      (ls.length + us.length < n ∨ ∀ ls us rm, motive ls us rm []) → motive ls us rm r)
    ?stop ?done ?skip ?del ?add ?keep ?modify
  case stop => exact fun _ _ h => h.elim (absurd · (Nat.not_lt_zero _)) fun h => h _ _ _
  case done => exact fun _ _ _ => done
  case skip =>
    exact fun l hh hd ih hl hu hs =>
      skip l ⟨hl.head, hu.lt_of_head hh⟩ hd
        (ih hl.tail hu (hs.imp_left fun h => by simp only [List.length_cons] at h; omega))
  case del =>
    exact fun l hh hrm ih hl hu hs =>
      del l ⟨hl.head, hu.lt_of_head hh⟩ hrm
        (ih hl.tail hu (hs.imp_left fun h => by simp only [List.length_cons] at h; omega))
  case add =>
    exact fun u hh ih hl hu hs =>
      add u ⟨hl.lt_of_head hh, hu.head⟩
        (ih hl hu.tail (hs.imp_left fun h => by simp only [List.length_cons] at h; omega))
  case keep =>
    exact fun l u hp hfc hsame ih hl hu hs =>
      keep l u hp ⟨hp ▸ hl.head, hu.head⟩ hfc hsame
        (ih hl.tail hu.tail (hs.imp_left fun h => by simp only [List.length_cons] at h; omega))
  case modify =>
    exact fun l u hp hne hrm ih hl hu hs =>
      modify l u hp ⟨hp ▸ hl.head, hu.head⟩ hne hrm
        (ih hl.tail hu.tail (hs.imp_left fun h => by simp only [List.length_cons] at h; omega))

end Fsm.D
