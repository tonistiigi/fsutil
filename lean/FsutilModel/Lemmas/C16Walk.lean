import FsutilModel.Lemmas.C16
import FsutilModel.Lemmas.Pending
/-! The lift of `C16L.callback_full` over a whole walk: for a listing that is canonical with respect to the walk's own
ancestor test (`d.pathSep.isPrefixOf e.path`), the filtered walk (pruning off, no map function) reports exactly the entries
the chain verdict selects and the directories above them, in the order of the listing. -/
namespace Fsm.C16W
open P F C16L Pend

/-- the ancestor test of `filterFS.Walk`: `x/` is a prefix of `y`.  `Step`, `Canon` and their Boolean tests are written with it;
it is `underB`, whose lemmas the proofs use -/
def anc (x y : Path) : Bool := (x ++ [47]).isPrefixOf y

theorem anc_eq : anc = underB := rfl

def called (d : VDir) : VDir := { d with calledFn := true }

theorem called_st (d : VDir) : (called d).st = d.st := rfl

theorem pop_eq_dropWhile (e : StatE) (l : List VDir) :
    callback.pop e l = l.dropWhile (fun d => !d.pathSep.isPrefixOf e.path) := by
  induction l with
  | nil => rfl
  | cons d r ih => by_cases h : d.pathSep.isPrefixOf e.path = true <;> simp [callback.pop, h, ih]

theorem stackFor_eq_filter (cfg : Cfg) (hf : (!cfg.inc.isEmpty || !cfg.exc.isEmpty) = true) (pd : List VDir) (e : StatE)
    (hps : ∀ d ∈ pd, d.pathSep = d.st.path ++ [47])
    (hnest : pd.Pairwise (fun a b => underB a.st.path b.st.path = true)) :
    stackFor cfg pd e = pd.filter (fun d => underB d.st.path e.path) := by
  rw [stackFor, if_pos hf, pop_eq_dropWhile, ← List.reverse_reverse (pd.filter _), ← List.filter_reverse]
  congr 1
  have hps' : ∀ d ∈ pd.reverse, d.pathSep.isPrefixOf e.path = underB d.st.path e.path :=
    fun d hd => by rw [hps d (List.mem_reverse.mp hd)]; rfl
  apply dropWhile_eq_filter
  · exact (List.pairwise_reverse.mpr hnest).imp fun hba ha => underB_trans hba ha
  · intro d hd h
    rwa [← hps' d hd]
  · intro d hd
    have := List.find?_some hd
    rwa [hps' d (List.mem_of_find?_eq_some hd)]

structure Step (pre : List StatE) (z : StatE) : Prop where
  dirs : ∀ x ∈ pre, anc x.path z.path = true → x.isDir = true
  /-- parent-closed: the nearest listed ancestor is the lexical parent.  The top of the popped stack then carries the infos of
  exactly `parentPrefixes z.path`, the premise of `callback_full`. -/
  pp : parentPrefixes z.path =
    match (pre.filter (fun x => anc x.path z.path)).getLast? with
    | none => []
    | some t => parentPrefixes t.path ++ [t.path]
  dfs : ∀ pre' y, pre = pre' ++ [y] → ∀ x ∈ pre', anc x.path z.path = true → anc x.path y.path = true
  fresh : z ∉ pre
  later : ∀ x ∈ pre, anc z.path x.path = false

def Canon (l : List StatE) : Prop := ∀ pre z post, l = pre ++ z :: post → Step pre z

def keepIn (cfg : Cfg) (pre : List StatE) (e : StatE) : Bool :=
  selected cfg.inc cfg.exc e.path ||
    (e.isDir && pre.any fun d => anc e.path d.path && selected cfg.inc cfg.exc d.path)

def stackShape (pre' : List StatE) (y : StatE) : List StatE :=
  pre'.filter (fun x => anc x.path y.path) ++ (if y.isDir then [y] else [])

structure Inv (cfg : Cfg) (pre' : List StatE) (y : StatE) (pd : List VDir) (out : List StatE) : Prop where
  fields : ∀ d ∈ pd, d.skipFn = false ∧ d.pathSep = d.st.path ++ [47] ∧
    d.inc = chainInfo cfg.inc (parentPrefixes d.st.path ++ [d.st.path]) ∧
    d.exc = chainInfo cfg.exc (parentPrefixes d.st.path ++ [d.st.path])
  shape : pd.map (·.st) = stackShape pre' y
  nested : pd.Pairwise (fun a b => anc a.st.path b.st.path = true)
  calledIff : ∀ d ∈ pd, d.calledFn = true ↔ d.st ∈ out
  outIff : ∀ e, e ∈ out ↔ e ∈ pre' ++ [y] ∧ keepIn cfg (pre' ++ [y]) e = true

theorem Step.core {pre : List StatE} {z : StatE} (h : Step pre z) : Core pre z :=
  ⟨anc_eq ▸ h.dirs, anc_eq ▸ h.dfs, h.fresh, anc_eq ▸ h.later⟩

theorem keepIn_eq (cfg : Cfg) : keepIn cfg = keep (selected cfg.inc cfg.exc) := by
  funext pre e
  simp only [keepIn, keep, anc_eq, Bool.and_comm]

theorem top_info (ps : List Pat) (info : VDir → List Bool) (S : List VDir) (z : StatE)
    (hfl : ∀ d ∈ S, info d = chainInfo ps (parentPrefixes d.st.path ++ [d.st.path]))
    (hpp : parentPrefixes z.path =
      match (S.map (·.st)).getLast? with
      | none => []
      | some t => parentPrefixes t.path ++ [t.path]) :
    ((S.getLast?).map info).getD [] = chainInfo ps (parentPrefixes z.path) := by
  rw [List.getLast?_map] at hpp
  cases hl : S.getLast? with
  | none =>
    rw [hl] at hpp
    simp [show parentPrefixes z.path = [] from hpp, chainInfo_nil]
  | some d =>
    rw [hl] at hpp
    simp [show parentPrefixes z.path = _ from hpp, hfl d (List.mem_of_getLast? hl)]

/-- the state of the walk after the entries `pre` (also: before the first one) -/
structure Walked (cfg : Cfg) (pre : List StatE) (pd : List VDir) (out : List StatE) : Prop where
  opened : Open pre (pd.map (·.st))
  shape : ∀ pre' y, pre = pre' ++ [y] → pd.map (·.st) = stackShape pre' y
  fields : ∀ d ∈ pd, d.skipFn = false ∧ d.pathSep = d.st.path ++ [47] ∧
    d.inc = chainInfo cfg.inc (parentPrefixes d.st.path ++ [d.st.path]) ∧
    d.exc = chainInfo cfg.exc (parentPrefixes d.st.path ++ [d.st.path])
  called : ∀ d ∈ pd, d.calledFn = keep (selected cfg.inc cfg.exc) pre d.st
  outEq : out.reverse = pre.filter (keep (selected cfg.inc cfg.exc) pre)

theorem Walked.nil (cfg : Cfg) : Walked cfg [] [] [] :=
  ⟨Open.nil, fun _ _ h => by simp at h, fun _ h => (nomatch h), fun _ h => (nomatch h), rfl⟩

/-- `Inv` is the same invariant stated for the last entry `y` and with the reports as a set (`calledIff`, `outIff`).  It follows
from `Walked`; the proofs use `Walked` only. -/
theorem Walked.inv {cfg : Cfg} {pre' : List StatE} {y : StatE} {pd : List VDir} {out : List StatE}
    (hW : Walked cfg (pre' ++ [y]) pd out) : Inv cfg pre' y pd out where
  fields := hW.fields
  shape := hW.shape pre' y rfl
  nested := anc_eq ▸ List.pairwise_map.mp hW.opened.nested
  calledIff := fun d hd => by
    rw [hW.called d hd, ← List.mem_reverse, hW.outEq, List.mem_filter,
      and_iff_right (hW.opened.sub.subset (List.mem_map.mpr ⟨d, hd, rfl⟩))]
  outIff := fun e => by rw [← List.mem_reverse, hW.outEq, keepIn_eq, List.mem_filter]

theorem walked_step (cfg : Cfg) (hp : cfg.prune = false) (hm : cfg.map = []) (hf : (!cfg.inc.isEmpty || !cfg.exc.isEmpty) = true)
    {pre : List StatE} {pd : List VDir} {out : List StatE} {z : StatE} (hW : Walked cfg pre pd out) (hS : Step pre z) :
    ∃ pd' outs, callback true cfg pd z = (pd', outs, .cont) ∧ Walked cfg (pre ++ [z]) pd' (outs.reverse ++ out) := by
  have hO := hW.opened
  have hfil := stackFor_eq_filter cfg hf pd z (fun d hd => (hW.fields d hd).2.1) (List.pairwise_map.mp hO.nested)
  have hsub : ∀ d ∈ stackFor cfg pd z, d ∈ pd ∧ underB d.st.path z.path = true := by
    intro d hd
    rw [hfil] at hd
    exact List.mem_filter.mp hd
  have hmap : (stackFor cfg pd z).map (·.st) = (pd.map (·.st)).filter (fun x => underB x.path z.path) := by
    rw [hfil, List.filter_map]; rfl
  have hpp := hS.pp
  rw [anc_eq, hO.next z hS.core, ← hmap] at hpp
  have hti := top_info cfg.inc (·.inc) _ z (fun d hd => (hW.fields d (hsub d hd).1).2.2.1) hpp
  have hte := top_info cfg.exc (·.exc) _ z (fun d hd => (hW.fields d (hsub d hd).1).2.2.2) hpp
  have hcb := callback_full cfg hp hm pd z (fun d hd => (hW.fields d (hsub d hd).1).1) hti hte
  simp only [hf, Bool.true_and] at hcb
  have hst : ((stackFor cfg pd z).map (mark (selected cfg.inc cfg.exc z.path)) ++
      if z.isDir then [vdirOf cfg z (selected cfg.inc cfg.exc z.path)] else []).map (·.st) =
      chainNext (pd.map (·.st)) z := by
    rw [List.map_append, List.map_map, show (fun d => d.st) ∘ mark _ = fun d => d.st from rfl, hmap, chainNext]
    split <;> rfl
  have hpend : (stackFor cfg pd z).filter (fun d => !d.calledFn) =
      (stackFor cfg pd z).filter (fun d => !keep (selected cfg.inc cfg.exc) pre d.st) :=
    List.filter_congr fun d hd => congrArg (! ·) (hW.called d (hsub d hd).1)
  refine ⟨_, _, hcb, { opened := hst ▸ hO.snoc hS.core, shape := ?shape, fields := ?fields, called := ?called, outEq := ?outEq }⟩
  case shape =>
    intro pre' y h
    obtain ⟨rfl, hy⟩ := List.append_inj' h rfl
    rw [← List.singleton_inj.mp hy, hst, chainNext, stackShape, ← hO.next z hS.core, anc_eq]
  case fields =>
    intro d hd
    rcases List.mem_append.mp hd with h | h
    · obtain ⟨d0, hd0, rfl⟩ := List.mem_map.mp h
      exact hW.fields d0 (hsub d0 hd0).1
    · rw [List.mem_singleton.mp (List.mem_ite_nil_right.mp h).2]
      simp [vdirOf]
  case called =>
    intro d hd
    rcases List.mem_append.mp hd with h | h
    · obtain ⟨d0, hd0, rfl⟩ := List.mem_map.mp h
      show (d0.calledFn || selected cfg.inc cfg.exc z.path) = keep (selected cfg.inc cfg.exc) (pre ++ [z]) d0.st
      have hdir := hO.dirs d0.st (List.mem_map.mpr ⟨d0, (hsub d0 hd0).1, rfl⟩)
      rw [keep_anc hdir (hsub d0 hd0).2, hW.called d0 (hsub d0 hd0).1]
    · rw [List.mem_singleton.mp (List.mem_ite_nil_right.mp h).2]
      exact (keep_self (sel := selected cfg.inc cfg.exc) hS.core).symm
  case outEq =>
    rw [List.reverse_append, List.reverse_reverse, hW.outEq, hO.filter_keep_snoc hS.core, ← hmap, List.filter_map, hpend]
    rfl

theorem filterWalk_eq (cfg : Cfg) (hp : cfg.prune = false) (hm : cfg.map = []) (hf : (!cfg.inc.isEmpty || !cfg.exc.isEmpty) = true)
    (l : List StatE) (hC : Canon l) : filterWalk true cfg l = l.filter (keep (selected cfg.inc cfg.exc) l) := by
  refine atEverySplit_induction hC (Q := fun pre post => ∀ pd out, Walked cfg pre pd out →
    walkLoop true cfg post pd none none out = l.filter (keep (selected cfg.inc cfg.exc) l)) ?_ ?_ [] [] (Walked.nil cfg)
  · intro pd out hW
    exact hW.outEq
  · intro pre z post hS ih pd out hW
    obtain ⟨pd', outs, hcb, hW'⟩ := walked_step cfg hp hm hf hW hS
    simp only [walkLoop, hcb, Bool.false_eq_true, if_false]
    exact ih pd' _ hW'

/-- it asks more than `Step`: no earlier entry has the path of `z`, where `Step.fresh` excludes only `z` itself -/
def stepB (pre : List StatE) (z : StatE) : Bool :=
  (pre.all fun x => !anc x.path z.path || x.isDir) &&
  (parentPrefixes z.path ==
    match (pre.filter (fun x => anc x.path z.path)).getLast? with
    | none => []
    | some t => parentPrefixes t.path ++ [t.path]) &&
  (match pre.getLast? with
   | none => true
   | some y => pre.dropLast.all fun x => !anc x.path z.path || anc x.path y.path) &&
  (pre.all fun x => x.path != z.path) &&
  (pre.all fun x => !anc z.path x.path)

def canonGo : List StatE → List StatE → Bool
  | _, [] => true
  | pre, z :: post => stepB pre z && canonGo (pre ++ [z]) post

/-- the driver evaluates it on every listing a real walk produced -/
def canonB (l : List StatE) : Bool := canonGo [] l

theorem stepB_sound (pre : List StatE) (z : StatE) (h : stepB pre z = true) : Step pre z := by
  simp only [stepB, Bool.and_eq_true, beq_iff_eq] at h
  obtain ⟨⟨⟨⟨hdirs, hpp⟩, hdfs⟩, hfresh⟩, hlater⟩ := h
  exact { dirs := all_imp hdirs, pp := hpp, dfs := anc_eq ▸ dfs_of_last hdfs,
          fresh := fun hz => by simpa using List.all_eq_true.mp hfresh z hz, later := by simpa using hlater }

theorem canonB_sound (l : List StatE) (h : canonB l = true) : Canon l :=
  positions_of_check (fun _ _ _ => rfl) stepB_sound h

theorem walkLoop_nopatterns (cfg : Cfg) (hm : cfg.map = []) (hi : cfg.inc = []) (hx : cfg.exc = []) :
    ∀ (l : List StatE) (out : List StatE), walkLoop true cfg l [] none none out = out.reverse ++ l := by
  intro l
  induction l with
  | nil => intro out; simp [walkLoop]
  | cons e rest ih =>
    intro out
    have hcb : callback true cfg [] e = ([], [e], .cont) := by
      unfold callback
      simp [hi, hx, mapOf_keep hm, emitParents, applyMap]
    simp only [walkLoop, hcb, Bool.false_eq_true, if_false]
    rw [ih]
    simp

end Fsm.C16W
