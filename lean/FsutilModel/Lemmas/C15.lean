import FsutilModel.Basic
import FsutilModel.Model.CopyB
/-! C15, the invariant behind F29: every hard-link source the copier has recorded (`St.inodes`: source inode ↦ destination
path) denotes a node of the working tree that carries the content of that inode; every step of `copyEntry` keeps it, because
`dropTarget` forgets the sources recorded at a path it replaces. -/
namespace Fsm.C15L
open C

/-- the path determines the content: asked of the destination the copier starts from, kept by every step -/
def PathDet (t : List C.Node) : Prop := ∀ x ∈ t, ∀ y ∈ t, x.path = y.path → x.sha = y.sha

def SrcOK (src : List Snap) (s : St) : Prop :=
  ∀ ip ∈ s.inodes, ∃ n ∈ s.tree, n.path = ip.2 ∧ ∃ e ∈ src, e.ino = ip.1 ∧ n.sha = e.sha

def Inv (src : List Snap) (s : St) : Prop := PathDet s.tree ∧ SrcOK src s

theorem findN_none {t : List C.Node} {p : Path} (h : findN t p = none) : ∀ n ∈ t, n.path ≠ p :=
  find?_key_none.mp h

theorem findN_some {t : List C.Node} {p : Path} {n : C.Node} (h : findN t p = some n) : n ∈ t ∧ n.path = p :=
  find?_key_some h

theorem leaderOf_some {e : Snap} {s : St} {l : Path} (h : leaderOf e s = some l) : (e.ino, l) ∈ s.inodes := by
  unfold leaderOf at h
  split at h
  · obtain ⟨ip, hf, rfl⟩ := Option.map_eq_some_iff.mp h
    obtain ⟨hip, hino⟩ := find?_key_some (k := Prod.fst) hf
    exact hino ▸ hip
  · cases h

theorem upsert_of_mem {t : List C.Node} {n x : C.Node} (hx : x ∈ t) (hp : x.path = n.path) :
    upsert t n = t.map fun x => if x.path = n.path then n else x :=
  if_pos (List.any_eq_true.mpr ⟨x, hx, decide_eq_true hp⟩)

theorem upsert_of_not_mem {t : List C.Node} {n : C.Node} (h : ∀ x ∈ t, x.path ≠ n.path) : upsert t n = t ++ [n] :=
  if_neg fun hany => by
    obtain ⟨x, hx, hp⟩ := List.any_eq_true.mp hany
    exact h x hx (of_decide_eq_true hp)

theorem mem_upsert_self (t : List C.Node) (n : C.Node) : n ∈ upsert t n := by
  by_cases h : ∃ x ∈ t, x.path = n.path
  · obtain ⟨x, hx, hp⟩ := h
    rw [upsert_of_mem hx hp]
    exact List.mem_map.mpr ⟨x, hx, if_pos hp⟩
  · rw [upsert_of_not_mem fun x hx hp => h ⟨x, hx, hp⟩]
    exact List.mem_append_right _ (List.mem_singleton_self n)

theorem mem_removeSub {t : List C.Node} {p : Path} {n : C.Node} :
    n ∈ removeSub t p ↔ n ∈ t ∧ (n.path = p || underB p n.path) = false := by
  simp [removeSub]

theorem node_ite_same {c : Prop} [Decidable c] {n m : C.Node} (h : c → m.path = n.path ∧ m.sha = n.sha) :
    (if c then m else n).path = n.path ∧ (if c then m else n).sha = n.sha :=
  iteInduction (motive := fun x : C.Node => x.path = n.path ∧ x.sha = n.sha) h fun _ => ⟨rfl, rfl⟩

theorem dropTargetG_tree (fixed : Bool) (s : St) (target : Path) :
    ∃ f : C.Node → C.Node, (∀ n, (f n).path = n.path ∧ (f n).sha = n.sha) ∧
      (dropTargetG fixed s target).tree = (removeSub s.tree target).map f := by
  refine ⟨_, fun n => node_ite_same fun _ => ?_, rfl⟩
  split
  · exact node_ite_same fun _ => ⟨rfl, rfl⟩
  · exact ⟨rfl, rfl⟩

theorem dropTargetG_fresh (fixed : Bool) (s : St) (target : Path) : ∀ n ∈ (dropTargetG fixed s target).tree, n.path ≠ target := by
  obtain ⟨f, hf, ht⟩ := dropTargetG_tree fixed s target
  intro n hn hp
  rw [ht] at hn
  obtain ⟨n0, hn0, rfl⟩ := List.mem_map.mp hn
  have := (mem_removeSub.mp hn0).2
  rw [← (hf n0).1, hp] at this
  simp at this

variable {src : List Snap} {s s' : St}

/-- the step principle: every new node has an old node of the same path and content, and the node a surviving record names
survives with them (`Inv.map`, `Inv.upsert` and `inv_dropTarget` are instances) -/
theorem Inv.transfer (h : Inv src s)
    (hback : ∀ n' ∈ s'.tree, ∃ n ∈ s.tree, n.path = n'.path ∧ n.sha = n'.sha)
    (hfwd : ∀ ip ∈ s'.inodes, ip ∈ s.inodes ∧ ∀ n ∈ s.tree, n.path = ip.2 → ∃ n' ∈ s'.tree, n'.path = n.path ∧ n'.sha = n.sha) :
    Inv src s' := by
  refine ⟨fun x' hx' y' hy' hxy => ?_, fun ip hip => ?_⟩
  · obtain ⟨x, hx, hxp, hxs⟩ := hback x' hx'
    obtain ⟨y, hy, hyp, hys⟩ := hback y' hy'
    rw [← hxs, ← hys]
    exact h.1 x hx y hy (by rw [hxp, hyp, hxy])
  · obtain ⟨hip0, hcp⟩ := hfwd ip hip
    obtain ⟨n, hn, hnp, hsrc⟩ := h.2 ip hip0
    obtain ⟨n', hn', hp', hs'⟩ := hcp n hn hnp
    exact ⟨n', hn', by rw [hp', hnp], by rw [hs']; exact hsrc⟩

theorem Inv.map (h : Inv src s) {f : C.Node → C.Node} (ht : s'.tree = s.tree.map f) (hi : s'.inodes = s.inodes)
    (hf : ∀ n ∈ s.tree, (f n).path = n.path ∧ (f n).sha = n.sha) : Inv src s' := by
  refine h.transfer (fun n' hn' => ?_) (fun ip hip => ⟨hi ▸ hip, fun n hn _ => ⟨f n, ?_, hf n hn⟩⟩)
  · rw [ht] at hn'
    obtain ⟨n, hn, rfl⟩ := List.mem_map.mp hn'
    exact ⟨n, hn, (hf n hn).1.symm, (hf n hn).2.symm⟩
  · rw [ht]; exact List.mem_map_of_mem hn

theorem Inv.upsert (h : Inv src s) {n n' : C.Node} (ht : s'.tree = upsert s.tree n') (hi : s'.inodes = s.inodes)
    (hn : n ∈ s.tree) (hp : n'.path = n.path) (hs : n'.sha = n.sha) : Inv src s' :=
  h.map (ht.trans (upsert_of_mem hn hp.symm)) hi fun x hx =>
    node_ite_same fun hc => ⟨hc.symm, hs.trans (h.1 n hn x hx (by rw [hc, hp]))⟩

theorem Inv.append (h : Inv src s) {nd : C.Node} (ht : s'.tree = s.tree ++ [nd]) (hi : s'.inodes = s.inodes)
    (hfresh : ∀ n ∈ s.tree, n.path ≠ nd.path) : Inv src s' := by
  refine ⟨?_, fun ip hip => ?_⟩
  · rw [ht]
    intro x hx y hy hxy
    rcases List.mem_append.mp hx with hx | hx <;> rcases List.mem_append.mp hy with hy | hy
    · exact h.1 x hx y hy hxy
    · rw [List.mem_singleton.mp hy] at hxy; exact absurd hxy (hfresh x hx)
    · rw [List.mem_singleton.mp hx] at hxy; exact absurd hxy.symm (hfresh y hy)
    · rw [List.mem_singleton.mp hx, List.mem_singleton.mp hy]
  · obtain ⟨n, hn, rest⟩ := h.2 ip (hi ▸ hip)
    exact ⟨n, ht ▸ List.mem_append_left _ hn, rest⟩

theorem Inv.record (h : Inv src s) {e : Snap} {n : C.Node} (ht : s'.tree = s.tree) (hi : s'.inodes = (e.ino, n.path) :: s.inodes)
    (he : e ∈ src) (hn : n ∈ s.tree) (hs : n.sha = e.sha) : Inv src s' := by
  refine ⟨ht ▸ h.1, fun ip hip => ?_⟩
  rw [ht]
  rcases List.mem_cons.mp (hi ▸ hip) with rfl | hip
  · exact ⟨n, hn, rfl, e, he, rfl, hs⟩
  · exact h.2 ip hip

theorem Inv.congr (h : Inv src s) (ht : s'.tree = s.tree) (hi : s'.inodes = s.inodes) : Inv src s' := by
  unfold Inv SrcOK
  rw [ht, hi]
  exact h

variable {a : Args} {e : Snap} {target : Path}

theorem dropTarget_eq (s : St) (target : Path) : dropTarget s target = dropTargetG true s target := rfl

theorem inv_dropTarget (target : Path) (h : Inv src s) : Inv src (dropTargetG true s target) := by
  obtain ⟨f, hf, ht⟩ := dropTargetG_tree true s target
  refine h.transfer (fun n' hn' => ?_) (fun ip hip => ?_)
  · rw [ht] at hn'
    obtain ⟨n, hn, rfl⟩ := List.mem_map.mp hn'
    exact ⟨n, (mem_removeSub.mp hn).1, (hf n).1.symm, (hf n).2.symm⟩
  · obtain ⟨hip0, hkeep⟩ := List.mem_filter.mp (show ip ∈ s.inodes.filter _ from hip)
    refine ⟨hip0, fun n hn hnp => ⟨f n, ?_, hf n⟩⟩
    rw [ht]
    refine List.mem_map_of_mem (mem_removeSub.mpr ⟨hn, ?_⟩)
    rw [hnp]; simpa using hkeep

theorem inv_replaceStep (h : Inv src s) : Inv src (replaceStep a e target s) := by
  unfold replaceStep
  rw [dropTarget_eq]
  split
  · split
    · exact inv_dropTarget target h
    · exact h
  · exact h

theorem inv_parentStep {srcSub : List Snap} {srcRel dstFinal d : Path} (h : Inv src s)
    (hs : parentStep a srcSub srcRel dstFinal s d = .ok s') : Inv src s' := by
  unfold parentStep at hs
  rcases of_ite_eq hs with hs | hs
  · cases hs; exact h
  · split at hs
    · cases hs; exact h
    · dsimp only at hs
      split at hs
      · next n hf => cases of_ite_else_error hs; exact h.upsert rfl rfl (findN_some hf).1 rfl rfl
      · next hf => cases hs; exact h.append rfl rfl (findN_none hf)

theorem inv_dirStep {top : Bool} (h : Inv src s) (hs : dirStep a e target top s = .ok s') : Inv src s' := by
  unfold dirStep at hs
  cases hf : findN s.tree target with
  | none => rw [hf] at hs; cases hs; exact h.append rfl rfl (findN_none hf)
  | some n =>
    rw [hf] at hs
    have hs := of_ite_then_error hs
    cases top <;> cases hs <;> exact h.upsert rfl rfl (findN_some hf).1 rfl rfl

theorem inv_emptyTarget (h : Inv src s) (hs : emptyTarget target s = .ok s') : Inv src s' ∧ ∀ n ∈ s'.tree, n.path ≠ target := by
  unfold emptyTarget at hs
  rw [dropTarget_eq] at hs
  split at hs
  · split at hs
    · cases hs
    · cases hs; exact ⟨inv_dropTarget target h, dropTargetG_fresh true s target⟩
  · next hf => cases hs; exact ⟨h, findN_none hf⟩

theorem putFile_ok (hs : putFile a e target s = .ok s') : ∃ (f : C.Node → C.Node) (nd : C.Node),
    s'.tree = s.tree.map f ++ [nd] ∧ (s'.inodes = (e.ino, nd.path) :: s.inodes ∨ s'.inodes = s.inodes) ∧
      nd.path = target ∧ nd.sha = e.sha ∧ ∀ n, (f n).path = n.path ∧ (f n).sha = n.sha := by
  unfold putFile at hs
  split at hs
  dsimp only at hs
  have hs := of_ite_then_error hs
  cases of_ite_then_error hs
  generalize leaderOf e s = o
  cases o with
  | none => exact ⟨id, _, by rw [List.map_id], ite_eq_or_eq .., rfl, rfl, fun _ => ⟨rfl, rfl⟩⟩
  | some l => exact ⟨_, _, rfl, ite_eq_or_eq .., rfl, rfl, fun _ => node_ite_same fun _ => ⟨rfl, rfl⟩⟩

theorem inv_putFile (he : e ∈ src) (h : Inv src s) (hfresh : ∀ n ∈ s.tree, n.path ≠ target)
    (hs : putFile a e target s = .ok s') : Inv src s' := by
  obtain ⟨f, nd, ht, hi, hp, hsha, hf⟩ := putFile_ok hs
  have h1 : Inv src { s with tree := s.tree.map f } := h.map rfl rfl fun n _ => hf n
  have h2 : Inv src { s with tree := s.tree.map f ++ [nd] } := h1.append rfl rfl fun n hn => by
    obtain ⟨n0, hn0, rfl⟩ := List.mem_map.mp hn
    rw [(hf n0).1, hp]; exact hfresh n0 hn0
  rcases hi with hi | hi
  · exact h2.record ht hi he (List.mem_append_right _ (List.mem_singleton_self _)) hsha
  · exact h2.congr ht hi

theorem inv_copyEntry {srcSub : List Snap} {srcRel dstFinal : Path} (he : e ∈ src) (h : Inv src s)
    (hs : copyEntry a srcSub srcRel dstFinal s e = .ok s') : Inv src s' := by
  unfold copyEntry at hs
  dsimp only at hs
  generalize (if e.st.path = srcRel then _ else _ : Path) = rel at hs
  rcases of_ite_eq hs with hs | hs
  · cases hs; exact h
  · obtain ⟨s1, hp, hs⟩ := bind_eq_ok hs
    have h1 : Inv src s1 := foldlM_inv (fun _ _ _ _ => inv_parentStep) (inv_replaceStep h) hp
    split at hs
    · exact inv_dirStep h1 hs
    · obtain ⟨s2, he2, hs⟩ := bind_eq_ok hs
      obtain ⟨h2, hfr⟩ := inv_emptyTarget h1 he2
      exact inv_putFile he h2 hfr hs

theorem inv_mkdirAll_go (cs : List Path) : ∀ (cur : Path) (s : St) (t' : List C.Node), Inv src s →
    mkdirAll.go a cs cur s.tree = .ok t' → Inv src { s with tree := t' } := by
  induction cs with
  | nil => intro _ s t' h hs; cases hs; exact h
  | cons c rest ih =>
    intro cur s t' h hs
    rw [mkdirAll.go] at hs
    split at hs
    · exact ih _ s t' h (of_ite_else_error hs)
    · next hf => exact ih _ { s with tree := s.tree ++ [_] } t' (h.append rfl rfl (findN_none hf)) hs

/-- the entry that stands for the source root itself. It repeats the record that `C.copyOne` builds as `rootEnt`: `inv_copyOne`
type-checks only while the two agree up to unfolding `rootSnap`. -/
def rootSnap : Snap :=
  { st := { path := [], mode := modeDir ||| 493, uid := 0, gid := 0, size := 0, mtime := 1500000000000000000, linkname := [],
            devmajor := 0, devminor := 0 }, ino := 0, nlink := 2 }

theorem inv_copyOne {srcTree : List Snap} {srcRel srcArg dstRel : Path} {s0 : St}
    (h : Inv (rootSnap :: srcTree) s0) (hs : copyOne a srcTree srcRel srcArg dstRel s0 = .ok s') : Inv (rootSnap :: srcTree) s' := by
  unfold copyOne at hs
  split at hs
  · cases hs
  · dsimp only at hs
    split at hs
    · cases hs
    · next t2 hmk =>
      unfold mkdirAll at hmk
      have h2 : Inv (rootSnap :: srcTree) { s0 with tree := t2 } := inv_mkdirAll_go _ _ s0 t2 h hmk
      refine foldlM_inv (fun e he _ _ hi hstep => inv_copyEntry ?_ hi hstep) ?_ hs
      · rcases List.mem_append.mp he with hr | hsub
        · split at hr
          · rw [List.mem_singleton.mp hr]; exact List.mem_cons_self ..
          · cases hr
        · exact List.mem_cons_of_mem _ (List.mem_filter.mp hsub).1
      · -- the entries start from `t2`, with the time of the landing path's parent reset or not
        exact iteInduction (motive := fun t => Inv _ { s0 with tree := t, lazyDone := [] })
          (fun _ => h2.map rfl rfl fun n _ => node_ite_same fun _ => ⟨rfl, rfl⟩) fun _ => h2.congr rfl rfl

end Fsm.C15L
