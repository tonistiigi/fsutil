import FsutilModel.Basic
import FsutilModel.Model.RecvProto
/-! C03: the hard-link admission check over a whole stream.  A stream passes only if every hard-link entry names an entry that
was announced STRICTLY EARLIER as a plain file. -/
namespace Fsm.C03L
/-- the hard-link validator over a stream (what `Receive` does with every STAT, in order) -/
def hlRun : List Path → List StatE → Option (List Path)
  | seen, [] => some seen
  | seen, s :: rest =>
    match R.hardlinkStep seen s with
    | some seen' => hlRun seen' rest
    | none => none

def Plain (y : StatE) : Prop := y.isDir = false ∧ y.isSymlink = false ∧ y.linkname = []

theorem step_inv (pre : List StatE) (seen seen' : List Path) (s : StatE)
    (hI : ∀ p ∈ seen, ∃ y ∈ pre, y.path = p ∧ Plain y) (h : R.hardlinkStep seen s = some seen') :
    ∀ p ∈ seen', ∃ y ∈ pre ++ [s], y.path = p ∧ Plain y := by
  have old : ∀ p ∈ seen, ∃ y ∈ pre ++ [s], y.path = p ∧ Plain y := fun p hp =>
    let ⟨y, hy, h⟩ := hI p hp
    ⟨y, List.mem_append_left _ hy, h⟩
  -- the branches of `hardlinkStep` that let the entry pass: a directory or symlink, a link whose name is in `seen`, a plain file
  revert h; fun_cases R.hardlinkStep seen s <;> intro h <;> cases h
  · exact old
  · exact old
  · next hds hl =>
    refine List.forall_mem_cons.mpr ⟨⟨s, List.mem_append_right _ (List.mem_singleton_self s), rfl, ?_⟩, old⟩
    simpa [Plain, and_assoc] using And.intro hds hl

theorem link_mem {seen seen' : List Path} {s : StatE} (h : R.hardlinkStep seen s = some seen')
    (hd : s.isDir = false) (hs : s.isSymlink = false) (hl : s.linkname ≠ []) : s.linkname ∈ seen := by
  revert h; fun_cases R.hardlinkStep seen s <;> intro h <;> cases h
  · next hds => rw [hd, hs] at hds; cases hds
  · next hc => exact List.contains_iff_mem.mp hc
  · next hn => exact absurd hl hn

theorem link_source_strictly_earlier : ∀ (post pre : List StatE) (seen r : List Path),
    (∀ p ∈ seen, ∃ y ∈ pre, y.path = p ∧ Plain y) → hlRun seen post = some r →
    AtEverySplit (fun mid s => s.isDir = false → s.isSymlink = false → s.linkname ≠ [] →
      ∃ y ∈ pre ++ mid, y.path = s.linkname ∧ Plain y) post := by
  intro post
  induction post with
  | nil => exact fun _ _ _ _ _ => atEverySplit_nil
  | cons x post ih =>
    intro pre seen r hI hrun
    rw [hlRun] at hrun
    cases hstep : R.hardlinkStep seen x with
    | none => rw [hstep] at hrun; cases hrun
    | some seen' =>
      rw [hstep] at hrun
      refine atEverySplit_cons.mpr ⟨fun hd hs hl => ?_, ?_⟩
      · rw [List.append_nil]; exact hI _ (link_mem hstep hd hs hl)
      · simpa only [List.append_assoc, List.singleton_append] using ih (pre ++ [x]) seen' r (step_inv pre seen seen' x hI hstep) hrun

end Fsm.C03L

