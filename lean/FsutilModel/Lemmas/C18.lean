import FsutilModel.Model.FollowLinks
import FsutilModel.Lex
/-! C18: `dedupePaths`' inner loop `go` over a bytewise sorted list, one step at a time (`go_cons`): what it keeps is a sublist,
and the repaired version keeps nothing inside a kept element, because `x/…` sorts after `x`; `sortBytes` is an insertion sort. -/
namespace Fsm.C18
open FL

abbrev SortedB (l : List Path) : Prop := l.Pairwise (fun a b => strLt a b = true)

theorem go_cons (fixed : Bool) (s : Path) (rest : List Path) (last : Path) (out : List Path) :
    dedupePaths.go fixed (s :: rest) last out =
      if s = [dot] then none
      else if (bif fixed then out.any fun o => (o ++ [47]).isPrefixOf s else (last ++ [47]).isPrefixOf s) then
        dedupePaths.go fixed rest last out
      else dedupePaths.go fixed rest s (s :: out) := by
  rw [dedupePaths.go]
  cases fixed <;> rfl

theorem dedupe_go_prefix_free (l : List Path) : ∀ (last : Path) (out : List Path) (r : List Path),
    SortedB l →
    (∀ o ∈ out, ∀ x ∈ l, strLt o x = true) →
    (∀ a ∈ out, ∀ b ∈ out, ¬ (a ++ [47]) <+: b) →
    dedupePaths.go true l last out = some r →
    ∀ a ∈ r, ∀ b ∈ r, ¬ (a ++ [47]) <+: b := by
  induction l with
  | nil =>
    intro _ out r _ _ hinv h
    cases h
    exact fun a ha b hb => hinv a (List.mem_reverse.mp ha) b (List.mem_reverse.mp hb)
  | cons s rest ih =>
    intro last out r hsort hlt hinv h
    have hsr := List.pairwise_cons.mp hsort
    have hlt' : ∀ o ∈ out, ∀ x ∈ rest, strLt o x = true := fun o ho x hx => hlt o ho x (List.mem_cons_of_mem _ hx)
    rw [go_cons, cond_true] at h
    split at h
    · cases h
    · split at h
      · exact ih last out r hsr.2 hlt' hinv h
      · next hnone =>
        refine ih s (s :: out) r hsr.2 (List.forall_mem_cons.mpr ⟨hsr.1, hlt'⟩) ?_ h
        intro a ha b hb hp
        rcases List.mem_cons.mp ha with rfl | ha' <;> rcases List.mem_cons.mp hb with rfl | hb'
        · obtain ⟨t, ht⟩ := hp
          simp only [List.append_assoc, List.append_right_eq_self, List.singleton_append, reduceCtorEq] at ht
        · -- b was kept earlier, so b < a; but a/ prefix of b gives a < b
          exact Bool.false_ne_true ((strLt_asymm (strLt_of_sep_prefix _ _ hp)).symm.trans (hlt b hb' _ (List.mem_cons_self ..)))
        · exact hnone (List.any_eq_true.mpr ⟨a, ha', List.isPrefixOf_iff_prefix.mpr hp⟩)
        · exact hinv a ha' b hb' hp

theorem insertSortedB_mem (x : Path) (ys : List Path) : ∀ z ∈ insertSortedB x ys, z = x ∨ z ∈ ys := by
  induction ys with
  | nil => exact fun z h => .inl (List.mem_singleton.mp h)
  | cons y ys ih =>
    intro z h
    rw [insertSortedB] at h
    split at h
    · exact List.mem_cons.mp h
    · split at h
      · exact .inr h
      · rcases List.mem_cons.mp h with rfl | h
        · exact .inr (List.mem_cons_self ..)
        · exact (ih z h).imp_right (List.mem_cons_of_mem _)

theorem insertSortedB_sorted (x : Path) (ys : List Path) (hs : SortedB ys) : SortedB (insertSortedB x ys) := by
  induction ys with
  | nil => exact List.pairwise_singleton _ _
  | cons y ys ih =>
    have hc := List.pairwise_cons.mp hs
    rw [insertSortedB]
    split
    · next hxy =>
      exact List.pairwise_cons.mpr ⟨List.forall_mem_cons.mpr ⟨hxy, fun z hz => strLt_trans hxy (hc.1 z hz)⟩, hs⟩
    · split
      · exact hs
      · next hxy hne =>
        refine List.pairwise_cons.mpr ⟨fun z hz => ?_, ih hc.2⟩
        rcases insertSortedB_mem x ys z hz with rfl | hz
        · exact ((strLt_total z y).resolve_left hne).resolve_left hxy
        · exact hc.1 z hz

theorem dedupe_go_sublist (fixed : Bool) (l : List Path) : ∀ (last : Path) (out r : List Path),
    dedupePaths.go fixed l last out = some r → ∃ k, r = out.reverse ++ k ∧ k.Sublist l := by
  induction l with
  | nil =>
    intro _ out r h
    cases h
    exact ⟨[], (List.append_nil _).symm, .slnil⟩
  | cons s rest ih =>
    intro last out r h
    rw [go_cons] at h
    split at h
    · cases h
    · split at h
      · obtain ⟨k, hk, hsub⟩ := ih _ _ _ h
        exact ⟨k, hk, hsub.cons _⟩
      · obtain ⟨k, hk, hsub⟩ := ih _ _ _ h
        exact ⟨s :: k, by rw [hk, List.reverse_cons, List.append_assoc]; rfl, hsub.cons_cons _⟩

theorem dedupe_go_none_iff (fixed : Bool) (l : List Path) : ∀ (last : Path) (out : List Path),
    dedupePaths.go fixed l last out = none ↔ [dot] ∈ l := by
  induction l with
  | nil => exact fun _ _ => ⟨nofun, nofun⟩
  | cons s rest ih =>
    intro last out
    rw [go_cons, List.mem_cons]
    split
    · next hs => exact ⟨fun _ => .inl hs.symm, fun _ => rfl⟩
    · next hs =>
      have : [dot] = s ∨ [dot] ∈ rest ↔ [dot] ∈ rest := or_iff_right fun h => hs h.symm
      rw [this]
      split <;> exact ih _ _

end Fsm.C18
