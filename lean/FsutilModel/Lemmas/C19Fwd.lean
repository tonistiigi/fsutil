import FsutilModel.MetaOnlyBProof
import FsutilModel.Lemmas.Pending
/-! C19: what the metadata-only receive hands to the change computation (`metaRun … .forwarded`) is, for every canonical
stream and every selector, exactly the selected entries plus the directories above them, in stream order, each once. -/
namespace Fsm.C19F
open Pend

structure MStep (pre : List StatE) (z : StatE) : Prop where
  dirs : ∀ x ∈ pre, underB x.path z.path = true → x.isDir = true
  par : match (pre.filter (fun x => underB x.path z.path)).getLast? with
        | none => ∀ x ∈ pre, x.path ≠ dirB z.path
        | some t => t.path = dirB z.path
  dfs : ∀ pre' y, pre = pre' ++ [y] → ∀ x ∈ pre', underB x.path z.path = true → underB x.path y.path = true
  fresh : ∀ x ∈ pre, x.path ≠ z.path
  later : ∀ x ∈ pre, underB z.path x.path = false

def Canon (l : List StatE) : Prop := ∀ pre z post, l = pre ++ z :: post → MStep pre z

/-- `Pend.keep`, written out as `specForwarded` has it -/
def keepIn (sel : Path → Bool) (pre : List StatE) (e : StatE) : Bool :=
  sel e.path || (e.isDir && pre.any fun d => sel d.path && underB e.path d.path)

theorem keepIn_eq : keepIn = keep := rfl

theorem MStep.core {pre : List StatE} {z : StatE} (h : MStep pre z) : Core pre z :=
  ⟨h.dirs, h.dfs, fun hz => h.fresh z hz rfl, h.later⟩

theorem popToB_eq_dropWhile (p : Path) (l : List StatE) : popToB p l = l.dropWhile fun t => !decide (p = t.path) := by
  induction l with
  | nil => rfl
  | cons t r ih => by_cases h : p = t.path <;> simp [popToB, h, ih]

structure Inv (sel : Path → Bool) (pre C S F : List StatE) : Prop where
  sub : ∀ x ∈ C, x ∈ pre ∧ x.isDir = true
  nested : C.Pairwise (fun a b => underB a.path b.path = true)
  next : ∀ z, MStep pre z → pre.filter (fun x => underB x.path z.path) = C.filter (fun x => underB x.path z.path)
  below : ∀ a ∈ C, ∀ l1 l2, pre = l1 ++ a :: l2 → ∀ b ∈ l2, underB a.path b.path = true
  shape : S = C.reverse.filter (fun x => !keepIn sel pre x)
  out : F = pre.filter (keepIn sel pre)
  distinct : pre.Pairwise (fun a b => a.path ≠ b.path)

/-- `Inv` is `Open pre C` (its first four fields restate it; nothing reads them, the proofs take `Open pre C` itself) and three
facts about the state of the machine, whose `keepIn` unfolds to `keep` (`keepIn_eq`) -/
theorem Inv.of_open {sel : Path → Bool} {pre C S F : List StatE} (hO : Open pre C)
    (shape : S = C.reverse.filter (fun x => !keep sel pre x)) (out : F = pre.filter (keep sel pre))
    (distinct : pre.Pairwise (fun a b => a.path ≠ b.path)) : Inv sel pre C S F where
  sub := fun x hx => ⟨hO.sub.subset hx, hO.dirs x hx⟩
  nested := hO.nested
  next := fun z h => hO.next z h.core
  below := fun a ha l1 l2 hsp b hb => by
    have := hO.below
    rw [hsp] at this
    exact (List.pairwise_cons.mp (List.pairwise_append.mp this).2.1).1 b hb ha
  shape := shape
  out := out
  distinct := distinct

/-- receive.go pops until `parent == top.path`, not by prefix: that this keeps exactly the ancestors of `z` needs `MStep.par`
(filter.go pops by prefix; `C16W.stackFor_eq_filter` has no such premise).  The three bullets are the hypotheses of `dropWhile_eq_filter`. -/
theorem pop_pending {sel : Path → Bool} {pre C S : List StatE} {z : StatE} (hO : Open pre C)
    (hshape : S = C.reverse.filter (fun x => !keep sel pre x)) (hS : MStep pre z) :
    popToB (dirB z.path) S = ((C.filter (fun x => underB x.path z.path)).filter (fun x => !keep sel pre x)).reverse := by
  have hSC : ∀ x ∈ S, x ∈ C := fun x hx => by
    rw [hshape] at hx
    exact List.mem_reverse.mp (List.mem_filter.mp hx).1
  have hpar := hS.par
  rw [hO.next z hS.core] at hpar
  have hflt : S.filter (fun x => underB x.path z.path) =
      ((C.filter (fun x => underB x.path z.path)).filter (fun x => !keep sel pre x)).reverse := by
    rw [hshape, ← List.filter_reverse, ← List.filter_reverse, List.filter_filter, List.filter_filter]
    exact List.filter_congr fun x _ => Bool.and_comm ..
  rw [← hflt, popToB_eq_dropWhile]
  apply dropWhile_eq_filter (fun t : StatE => decide (dirB z.path = t.path)) (fun x : StatE => underB x.path z.path)
  · rw [hshape]
    exact ((List.pairwise_reverse.mpr hO.nested).sublist List.filter_sublist).imp fun hba ha => underB_trans hba ha
  · intro a ha hp
    have hp : dirB z.path = a.path := by simpa using hp
    cases hl : (C.filter (fun x => underB x.path z.path)).getLast? with
    | none =>
      rw [hl] at hpar
      exact absurd hp.symm (hpar a (hO.sub.subset (hSC a ha)))
    | some t =>
      rw [hl] at hpar
      obtain ⟨htC, htz⟩ := List.mem_filter.mp (List.mem_of_getLast? hl)
      rw [← hp, ← hpar]
      exact htz
  · intro a ha
    rw [← List.head?_filter, hflt, List.head?_reverse] at ha
    obtain ⟨haA, hak⟩ := List.mem_filter.mp (List.mem_of_getLast? ha)
    obtain ⟨haC, haz⟩ := List.mem_filter.mp haA
    cases hl : (C.filter (fun x => underB x.path z.path)).getLast? with
    | none => rw [List.getLast?_eq_none_iff.mp hl] at haA; cases haA
    | some t =>
      rw [hl] at hpar
      have htC := (List.mem_filter.mp (List.mem_of_getLast? hl)).1
      obtain ⟨A, hA⟩ := List.getLast?_eq_some_iff.mp hl
      have hnestA := hO.nested.sublist (List.filter_sublist (p := fun x => underB x.path z.path))
      rw [hA] at ha haA hnestA
      -- the parent `t` is pending too, or `a`, which is above it, would be due: so `t` is the last pending ancestor
      have hkt : keep sel pre t = false := by
        rcases List.mem_append.mp haA with h | h
        · cases hk : keep sel pre t with
          | false => rfl
          | true =>
            rw [keep_up (hO.dirs a haC) ((List.pairwise_append.mp hnestA).2.2 a h t (by simp))
              (hO.sub.subset htC) hk] at hak
            cases hak
        · rw [List.mem_singleton.mp h] at hak
          simpa using hak
      rw [List.filter_append, List.filter_cons_of_pos (by simp [hkt]), List.filter_nil, List.getLast?_concat] at ha
      rw [← Option.some.inj ha]
      simpa using hpar.symm

theorem inv_step {sel : Path → Bool} {pre C S F : List StatE} {z : StatE} (hO : Open pre C) (hI : Inv sel pre C S F)
    (hS : MStep pre z) :
    Inv sel (pre ++ [z]) (chainNext C z) (fwdStep sel (S, F) z).1 (fwdStep sel (S, F) z).2 := by
  have hpop := pop_pending hO hI.shape hS
  refine Inv.of_open (hO.snoc hS.core) ?_ ?_ ?_
  · rw [List.filter_reverse, hO.pending_snoc hS.core sel]
    unfold fwdStep
    rw [hpop]
    cases sel z.path <;> cases z.isDir <;> simp
  · rw [hO.filter_keep_snoc hS.core sel, ← show F = pre.filter (keep sel pre) from hI.out]
    unfold fwdStep
    rw [hpop]
    cases sel z.path <;> simp
  · rw [List.pairwise_append]
    refine ⟨hI.distinct, by simp, ?_⟩
    intro a ha b hb
    rw [List.mem_singleton.mp hb]
    exact hS.fresh a ha

theorem foldl_fwdStep {sel : Path → Bool} {l : List StatE} (hC : Canon l) :
    (l.foldl (fwdStep sel) ([], [])).2 = l.filter (keep sel l) :=
  atEverySplit_induction hC (Q := fun pre post => ∀ C S F, Open pre C → Inv sel pre C S F →
      (post.foldl (fwdStep sel) (S, F)).2 = l.filter (keep sel l))
    (fun _ _ _ _ hI => hI.out)
    (fun _ _ _ hS ih _ _ _ hO hI => ih _ _ _ (hO.snoc hS.core) (inv_step hO hI hS))
    [] [] [] Open.nil (Inv.of_open Open.nil rfl rfl .nil)

theorem forwarded_eq_spec (fixed : Bool) (sel : Path → Bool) (es : List StatE)
    (hC : Canon (es.filter (fun e => e.path ≠ metaNameB))) :
    (metaRun fixed sel es).forwarded = specForwarded sel es :=
  -- `specForwarded sel es` unfolds to `l.filter (keepIn sel l)`, `l` the stream without the listing name
  (congrArg Prod.snd (foldl_metaStep fixed sel es {}).2).trans (foldl_fwdStep hC)

theorem listing_eq (fixed : Bool) (sel : Path → Bool) (es : List StatE) :
    (metaRun fixed sel es).listing = es.filter (fun e => e.path ≠ metaNameB) :=
  (foldl_metaStep fixed sel es {}).1.trans (List.nil_append _)

def mstepB (pre : List StatE) (z : StatE) : Bool :=
  (pre.all fun x => !underB x.path z.path || x.isDir) &&
  (match (pre.filter (fun x => underB x.path z.path)).getLast? with
   | none => pre.all fun x => x.path != dirB z.path
   | some t => t.path == dirB z.path) &&
  (match pre.getLast? with
   | none => true
   | some y => pre.dropLast.all fun x => !underB x.path z.path || underB x.path y.path) &&
  (pre.all fun x => x.path != z.path) &&
  (pre.all fun x => !underB z.path x.path)

def mcanonGo : List StatE → List StatE → Bool
  | _, [] => true
  | pre, z :: post => mstepB pre z && mcanonGo (pre ++ [z]) post

/-- the driver evaluates it on every stream a real sender produced -/
def mcanonB (l : List StatE) : Bool := mcanonGo [] l

theorem mstepB_sound (pre : List StatE) (z : StatE) (h : mstepB pre z = true) : MStep pre z := by
  simp only [mstepB, Bool.and_eq_true] at h
  obtain ⟨⟨⟨⟨hdirs, hpar⟩, hdfs⟩, hfresh⟩, hlater⟩ := h
  refine { dirs := all_imp hdirs, par := ?_, dfs := dfs_of_last hdfs, fresh := by simpa using hfresh, later := by simpa using hlater }
  cases hl : (pre.filter (fun x => underB x.path z.path)).getLast? <;> simpa [hl] using hpar

theorem mcanonB_sound (l : List StatE) (h : mcanonB l = true) : Canon l :=
  positions_of_check (fun _ _ _ => rfl) mstepB_sound h

end Fsm.C19F
