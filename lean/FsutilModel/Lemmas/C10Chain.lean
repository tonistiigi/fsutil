import FsutilModel.Basic
import FsutilModel.Lemmas.C10
import FsutilModel.Model.CopyB
import FsutilModel.PathFnProof
/-! For pattern lists WITHOUT negations the parent-result chain (`MatchesUsingParentResults`, as the walk and the copier
use it) decides as the stateless matcher (`MatchesOrParentMatches`, as `filterFS.Open` and the naive reference of C10 use
it). This is the boundary of known finding F5: the two differ under negations only. -/
namespace Fsm.P

theorem parentPrefixes_sepfree {c : Path} (h : sep ∉ c) : parentPrefixes c = [] := by
  have : dirB c = [dot] := by simpa [joinSep] using dirB_snoc [] c (fun _ hx => nomatch hx) h
  simp [parentPrefixes, this]

theorem parentPrefixes_head (path : Path) :
    ∀ q rest, parentPrefixes path ++ [path] = q :: rest → parentPrefixes q = [] := by
  intro q rest h
  by_cases hd : dirB path = [dot]
  · have hp : parentPrefixes path = [] := by simp [parentPrefixes, hd]
    rw [hp] at h
    cases h
    exact hp
  · obtain ⟨c, cs, hc⟩ := List.exists_cons_of_ne_nil (comps_ne_nil (dirB path))
    have hp : parentPrefixes path = c :: (parentPrefixes path).tail := by
      simp [parentPrefixes, hd, hc, List.range_succ_eq_map, joinSep]
    rw [hp] at h
    cases h
    exact parentPrefixes_sepfree (comps_all_sepfree (dirB path) q (hc ▸ List.mem_cons_self ..))

end Fsm.P

namespace Fsm.C10C
open P C10

def anyMatch (ps : List Pat) (seen : List Path) : Bool := ps.any fun p => seen.any (patMatch p)

theorem anyMatch_snoc (ps : List Pat) (seen : List Path) (q : Path) :
    anyMatch ps (seen ++ [q]) = (anyMatch ps seen || ps.any (fun p => patMatch p q)) := by
  unfold anyMatch
  induction ps with
  | nil => rfl
  | cons p rest ih =>
    simp only [List.any_append, List.any_cons, List.any_nil, Bool.or_false] at ih ⊢
    rw [ih]
    cases seen.any (patMatch p) <;> cases patMatch p q <;> simp

theorem upr_noneg_any {ps : List Pat} (hneg : ∀ p ∈ ps, p.neg = false) (top : Bool) (I : List Bool) (q : Path) :
    (Pr.upr (ps.map (toAbsAt top)) I q).1 = (Pr.upr (ps.map (toAbsAt top)) I q).2.any id :=
  (Pr.go_noneg_any q _ I false (List.forall_mem_map.mpr hneg)).trans (Bool.false_or _)

theorem upr_noneg_verdict {ps : List Pat} (hneg : ∀ p ∈ ps, p.neg = false) (top : Bool) (I : List Bool)
    (hl : I.length ≤ ps.length) (q : Path) :
    (Pr.upr (ps.map (toAbsAt top)) I q).1 = (I.any id || ps.any fun p => (toAbsAt top p).m q) := by
  rw [Pr.upr, Pr.go_noneg_verdict q _ I false (List.forall_mem_map.mpr hneg) (by rw [List.length_map]; exact hl),
    Bool.false_or, List.any_map]
  rfl

/-- the state of the chain after the elements `seen`; the bits alone do not say which pattern matched: a set flag skips
the later ones -/
def ChainInv (ps : List Pat) (seen : List Path) (acc : Bool × List Bool) : Prop :=
  acc.2.length = ps.length ∧ acc.1 = acc.2.any id ∧ acc.1 = anyMatch ps seen

theorem chain_first (ps : List Pat) (hneg : ∀ p ∈ ps, p.neg = false) (q : Path) (hq : parentPrefixes q = []) :
    ChainInv ps [q] (matchesUPR ps q []) := by
  rw [matchesUPR_eq_at, List.isEmpty_nil]
  exact ⟨by rw [Pr.upr_length, List.length_map], upr_noneg_any hneg ..,
    by rw [upr_noneg_verdict hneg true [] (Nat.zero_le _)]; simp [anyMatch, toAbsAt, hq]⟩

theorem chain_step (ps : List Pat) (hneg : ∀ p ∈ ps, p.neg = false) (seen : List Path) (acc : Bool × List Bool) (q : Path)
    (h : ChainInv ps seen acc) : ChainInv ps (seen ++ [q]) (matchesUPR ps q acc.2) := by
  obtain ⟨hl, hb, hv⟩ := h
  rw [matchesUPR_toAbs hl, ← toAbsAt_false]
  exact ⟨by rw [Pr.upr_length, List.length_map], upr_noneg_any hneg ..,
    by rw [upr_noneg_verdict hneg false acc.2 (Nat.le_of_eq hl), ← hb, hv, anyMatch_snoc]; simp [toAbsAt]⟩

theorem chain_run (ps : List Pat) (hneg : ∀ p ∈ ps, p.neg = false) :
    ∀ (l seen : List Path) (acc : Bool × List Bool), ChainInv ps seen acc →
      ChainInv ps (seen ++ l) (l.foldl (fun (acc : Bool × List Bool) q => matchesUPR ps q acc.2) acc) :=
  fun l => foldl_prefix_induction l fun seen acc q _ => chain_step ps hneg seen acc q

theorem uprChain_noneg (ps : List Pat) (hneg : ∀ p ∈ ps, p.neg = false) (path : Path) :
    C.uprChain ps path = anyMatch ps (parentPrefixes path ++ [path]) := by
  obtain ⟨q, rest, h⟩ := List.exists_cons_of_ne_nil (show parentPrefixes path ++ [path] ≠ [] by simp)
  rw [C.uprChain, h]
  exact (chain_run ps hneg rest [q] _ (chain_first ps hneg q (parentPrefixes_head path q rest h))).2.2

theorem matchesOrParent_noneg (ps : List Pat) (hneg : ∀ p ∈ ps, p.neg = false) (path : Path) :
    matchesOrParent ps path = anyMatch ps (parentPrefixes path ++ [path]) := by
  rw [matchesOrParent_eq, matchesUPR_eq_at, List.isEmpty_nil, upr_noneg_verdict hneg true [] (Nat.zero_le _)]
  simp [anyMatch, toAbsAt, List.any_append, Bool.or_comm]

theorem chain_eq_stateless (ps : List Pat) (hneg : ∀ p ∈ ps, p.neg = false) (path : Path) :
    C.uprChain ps path = matchesOrParent ps path := by
  rw [uprChain_noneg ps hneg path, matchesOrParent_noneg ps hneg path]

end Fsm.C10C
