import FsutilModel.ValidatorSim
/-! C03: what acceptance by the validator means for the components of a path.  In a sequence the (repaired) validator
accepts, every ancestor path of every entry was announced earlier as a directory, and no path is announced twice. -/
namespace Fsm.C03A

/-- `q` is a proper ancestor path of `p` (iterating `filepath.Dir`; the root is not counted) -/
inductive Anc : Path → Path → Prop
  | parent (p : Path) : parentOf p ≠ [] → Anc (parentOf p) p
  | up (q p : Path) : parentOf p ≠ [] → Anc q (parentOf p) → Anc q p

theorem parent_announced (cs : List Chg) (h : vrun true cs = .accept) (pre : List Chg) (x : Chg) (post : List Chg)
    (hs : cs = pre ++ x :: post) (hp : parentOf x.path ≠ []) :
    ∃ y ∈ pre, y.path = parentOf x.path ∧ y.isDir = true ∧ y.isDel = false :=
  ((specOk_iff pre x).mp (vrun_accept_iff.mp h pre x post hs)).2.2.resolve_left hp

theorem ancestors_announced (cs : List Chg) (h : vrun true cs = .accept) (pre : List Chg) (x : Chg) (post : List Chg)
    (hs : cs = pre ++ x :: post) (q : Path) (hq : Anc q x.path) :
    ∃ y ∈ pre, y.path = q ∧ y.isDir = true ∧ y.isDel = false := by
  generalize hp : x.path = p at hq
  induction hq generalizing pre x post with
  | parent p hne => subst hp; exact parent_announced cs h pre x post hs hne
  | up q p hne _ ih =>
    subst hp
    obtain ⟨y, hy, hyp, _, _⟩ := parent_announced cs h pre x post hs hne
    obtain ⟨pre1, pre2, rfl⟩ := List.append_of_mem hy
    obtain ⟨z, hz, hzq⟩ := ih pre1 y (pre2 ++ x :: post) (by rw [hs]; simp) hyp
    exact ⟨z, List.mem_append_left _ hz, hzq⟩

theorem accepted_sorted (cs : List Chg) (h : vrun true cs = .accept) :
    cs.Pairwise (fun a b => comparePath a.path b.path < 0) :=
  pairwise_of_pred (r := fun a b : Chg => comparePath a.path b.path < 0) cmp_trans fun pre x post hs =>
    ((specOk_iff pre x).mp (vrun_accept_iff.mp h pre x post hs)).2.1

theorem announced_once (cs : List Chg) (h : vrun true cs = .accept) (pre : List Chg) (x : Chg) (post : List Chg)
    (hs : cs = pre ++ x :: post) : ∀ y ∈ pre, y.path ≠ x.path := by
  intro y hy heq
  have hsorted := accepted_sorted cs h
  rw [hs] at hsorted
  have := (List.pairwise_append.mp hsorted).2.2 y hy x (by simp)
  rw [heq] at this
  exact cmp_irrefl _ this

end Fsm.C03A
