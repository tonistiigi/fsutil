import FsutilModel.Model.Tar
import FsutilModel.Model.Filter
/-! C17: the link check on the members of an archive (`memLinksClosed`) steps through `members` of a listing as `F.linksClosed`
steps through the listing, so what C11 proves of the hard-link reset holds of the archive WriteTar writes. -/
namespace Fsm.C17
open T
open F

/-- every hard-link member names an earlier member that is written as the file itself -/
def memLinksClosed : List Path → List Member → Bool
  | _, [] => true
  | seen, m :: rest =>
    match m.tf with
    | .dir | .symlink => memLinksClosed seen rest
    | .link => seen.contains m.linkname && memLinksClosed seen rest
    | _ => memLinksClosed (m.name :: seen) rest

theorem memberOf_tf (v : VEnt) : (memberOf v).tf =
    if v.st.linkname ≠ [] then (if v.st.isSymlink then .symlink else .link) else typeOf v.st := rfl

theorem memberOf_size (v : VEnt) : (memberOf v).size =
    if v.st.linkname ≠ [] then 0 else (if typeOf v.st = .reg then v.st.size else 0) := rfl

theorem memberOf_name (v : VEnt) : (memberOf v).name =
    if v.st.isDir && v.st.path.getLast? ≠ some 47 then v.st.path ++ [47] else v.st.path := rfl

theorem typeOf_dir {s : StatE} (hd : s.isDir = true) : typeOf s = .dir := if_pos hd

theorem typeOf_symlink {s : StatE} (hd : s.isDir = false) (hs : s.isSymlink = true) : typeOf s = .symlink := by
  unfold typeOf
  rw [if_neg (hd ▸ Bool.false_ne_true), if_pos hs]

theorem typeOf_file {s : StatE} (hd : s.isDir = false) (hs : s.isSymlink = false) :
    typeOf s ≠ .dir ∧ typeOf s ≠ .symlink ∧ typeOf s ≠ .link := by
  unfold typeOf
  rw [hd, hs]
  generalize (s.mode &&& modeDevice != 0) = dev, (s.mode &&& modeCharDevice != 0) = chr, (s.mode &&& modeNamedPipe != 0) = fifo,
    (s.mode &&& modeSocket != 0) = sock
  revert dev chr fifo sock
  decide

theorem memLinksClosed_cons (seen : List Path) (m : Member) (ms : List Member) :
    memLinksClosed seen (m :: ms) =
      if m.tf = .dir ∨ m.tf = .symlink then memLinksClosed seen ms
      else if m.tf = .link then seen.contains m.linkname && memLinksClosed seen ms
      else memLinksClosed (m.name :: seen) ms := by
  rw [memLinksClosed]
  split
  · next h => rw [if_pos (.inl h)]
  · next h => rw [if_pos (.inr h)]
  · next h => rw [if_neg (by rw [h]; decide), if_pos h]
  · next h1 h2 h3 => rw [if_neg (not_or.mpr ⟨h1, h2⟩), if_neg h3]

theorem memLinksClosed_memberOf (seen : List Path) (v : VEnt) (ms : List Member) (hdir : v.st.isDir = true → v.st.linkname = []) :
    memLinksClosed seen (memberOf v :: ms) =
      if v.st.isDir || v.st.isSymlink then memLinksClosed seen ms
      else if v.st.linkname ≠ [] then seen.contains v.st.linkname && memLinksClosed seen ms
      else memLinksClosed (v.st.path :: seen) ms := by
  rw [memLinksClosed_cons]
  cases hd : v.st.isDir with
  | true =>
    have htf : (memberOf v).tf = .dir := by rw [memberOf_tf, if_neg (not_not_intro (hdir hd)), typeOf_dir hd]
    rw [htf]
    rfl
  | false =>
    cases hs : v.st.isSymlink with
    | true =>
      have htf : (memberOf v).tf = .symlink := by rw [memberOf_tf, hs, typeOf_symlink hd hs]; split <;> rfl
      rw [htf]
      rfl
    | false =>
      by_cases hl : v.st.linkname = []
      · obtain ⟨h1, h2, h3⟩ := typeOf_file hd hs
        rw [memberOf_tf, if_neg (not_not_intro hl), if_neg (not_or.mpr ⟨h1, h2⟩), if_neg h3, memberOf_name, hd,
          if_neg (not_not_intro hl)]
        rfl
      · rw [memberOf_tf, if_pos hl, hs, if_pos hl]
        rfl

theorem members_closed (sha : StatE → Path) (stats : List StatE) : ∀ seen : List Path,
    (∀ s ∈ stats, s.isDir = true → s.linkname = []) →
    memLinksClosed seen (members (stats.map fun s => { st := s, sha := sha s })) = linksClosed seen stats := by
  induction stats with
  | nil => exact fun _ _ => rfl
  | cons s rest ih =>
    intro seen hdir
    have ih := fun seen' => ih seen' fun x hx => hdir x (List.mem_cons_of_mem _ hx)
    refine (memLinksClosed_memberOf seen ⟨s, sha s⟩ _ (hdir s (List.mem_cons_self ..))).trans ?_
    rw [linksClosed, ← ih, ← ih]
    rfl

end Fsm.C17
