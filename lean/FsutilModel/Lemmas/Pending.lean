import FsutilModel.Basic
import FsutilModel.Model.DiffB
/-! Pending ancestors: `filterFS.Walk` (filter.go) and the metadata-only receive (receive.go) both run over a stream in which a
directory comes before what is below it, keep the directories above the current entry on a stack, and report such a directory
only once something below it is selected; what the two have in common is proved here without either machine. -/
namespace Fsm.Pend

/-- what a stream must look like at the point where `z` follows the entries `pre`, as far as the walk and the receive
agree on it -/
structure Core (pre : List StatE) (z : StatE) : Prop where
  dirs : ∀ x ∈ pre, underB x.path z.path = true → x.isDir = true
  /-- depth first: an ancestor of `z` that came before `z`'s predecessor is an ancestor of that predecessor -/
  dfs : ∀ pre' y, pre = pre' ++ [y] → ∀ x ∈ pre', underB x.path z.path = true → underB x.path y.path = true
  fresh : z ∉ pre
  later : ∀ x ∈ pre, underB z.path x.path = false

theorem dfs_of_last {pre : List StatE} {z : StatE}
    (h : (match pre.getLast? with
      | none => true
      | some y => pre.dropLast.all fun x => !underB x.path z.path || underB x.path y.path) = true) :
    ∀ pre' y, pre = pre' ++ [y] → ∀ x ∈ pre', underB x.path z.path = true → underB x.path y.path = true := by
  intro pre' y hpre
  subst hpre
  rw [List.getLast?_concat, List.dropLast_concat] at h
  exact all_imp h

/-- the entries that have to be reported once the entries `pre` have been seen -/
def keep (sel : Path → Bool) (pre : List StatE) (e : StatE) : Bool :=
  sel e.path || (e.isDir && pre.any fun d => sel d.path && underB e.path d.path)

theorem keep_iff {sel : Path → Bool} {pre : List StatE} {e : StatE} :
    keep sel pre e = true ↔
      sel e.path = true ∨ (e.isDir = true ∧ ∃ d ∈ pre, sel d.path = true ∧ underB e.path d.path = true) := by
  simp [keep]

theorem keep_congr {sel sel' : Path → Bool} {l : List StatE} (h : ∀ x ∈ l, sel x.path = sel' x.path) :
    ∀ e ∈ l, keep sel l e = keep sel' l e := by
  intro e he
  rw [Bool.eq_iff_iff, keep_iff, keep_iff, h e he]
  exact or_congr_right (and_congr_right fun _ => exists_congr fun d => and_congr_right fun hd => by rw [h d hd])

theorem keep_snoc (sel : Path → Bool) (pre : List StatE) (z e : StatE) :
    keep sel (pre ++ [z]) e = (keep sel pre e || (e.isDir && (sel z.path && underB e.path z.path))) := by
  simp only [keep, List.any_append, List.any_cons, List.any_nil, Bool.or_false, Bool.and_or_distrib_left, Bool.or_assoc]

theorem keep_up {sel : Path → Bool} {pre : List StatE} {a b : StatE} (ha : a.isDir = true)
    (hab : underB a.path b.path = true) (hb : b ∈ pre) (hk : keep sel pre b = true) : keep sel pre a = true := by
  rw [keep_iff] at *
  rcases hk with h | ⟨_, d, hd, hs, hu⟩
  · exact Or.inr ⟨ha, b, hb, h, hab⟩
  · exact Or.inr ⟨ha, d, hd, hs, underB_trans hab hu⟩

theorem keep_self {sel : Path → Bool} {pre : List StatE} {z : StatE} (hS : Core pre z) :
    keep sel (pre ++ [z]) z = sel z.path := by
  have : (pre.any fun d => sel d.path && underB z.path d.path) = false :=
    List.any_eq_false.mpr fun d hd => by simp [hS.later d hd]
  simp [keep, this, underB_irrefl]

theorem keep_anc {sel : Path → Bool} {pre : List StatE} {z x : StatE} (hd : x.isDir = true)
    (hu : underB x.path z.path = true) : keep sel (pre ++ [z]) x = (keep sel pre x || sel z.path) := by
  simp [keep_snoc, hd, hu]

/-- the chain of open directories after `z` -/
def chainNext (C : List StatE) (z : StatE) : List StatE :=
  C.filter (fun x => underB x.path z.path) ++ (if z.isDir then [z] else [])

/-- `C` is the chain of the directories that are open after `pre`, outermost first.  `next` says so the way it is used: whatever
entry `z` comes next, its ancestors in `pre` are those in `C`.  `below`: what follows an open directory lies below it. -/
structure Open (pre C : List StatE) : Prop where
  sub : C.Sublist pre
  dirs : ∀ x ∈ C, x.isDir = true
  next : ∀ z, Core pre z → pre.filter (fun x => underB x.path z.path) = C.filter (fun x => underB x.path z.path)
  below : pre.Pairwise (fun a b => a ∈ C → underB a.path b.path = true)

theorem Open.nil : Open [] [] :=
  ⟨.slnil, fun _ h => (nomatch h), fun _ _ => rfl, .nil⟩

theorem Open.nested {pre C : List StatE} (hO : Open pre C) : C.Pairwise (fun a b => underB a.path b.path = true) :=
  (hO.below.sublist hO.sub).imp_of_mem fun ha _ h => h ha

theorem mem_chainNext {C : List StatE} {z x : StatE} :
    x ∈ chainNext C z ↔ (x ∈ C ∧ underB x.path z.path = true) ∨ (z.isDir = true ∧ x = z) := by
  simp [chainNext]

theorem Open.snoc {pre C : List StatE} {z : StatE} (hO : Open pre C) (hS : Core pre z) :
    Open (pre ++ [z]) (chainNext C z) := by
  refine ⟨(List.filter_sublist.trans hO.sub).append (by split <;> simp), ?_, ?_, ?_⟩
  · intro x hx
    rcases mem_chainNext.mp hx with ⟨h, _⟩ | ⟨hd, rfl⟩
    · exact hO.dirs x h
    · exact hd
  · intro z' hS'
    rw [List.filter_append, chainNext, List.filter_append, ← hO.next z hS, List.filter_filter]
    congr 1
    · exact List.filter_congr fun x hx => by
        cases hz : underB x.path z'.path with
        | false => rfl
        | true => simp [hS'.dfs pre z rfl x hx hz]
    · cases hz : underB z.path z'.path with
      | false => split <;> simp [hz]
      | true => simp [hS'.dirs z (by simp) hz, hz]
  · rw [List.pairwise_append]
    refine ⟨hO.below.imp_of_mem ?_, by simp, ?_⟩
    · intro a b ha _ hab hc
      rcases mem_chainNext.mp hc with ⟨h, _⟩ | ⟨_, rfl⟩
      · exact hab h
      · exact absurd ha hS.fresh
    · intro a ha b hb hc
      rw [List.mem_singleton.mp hb]
      rcases mem_chainNext.mp hc with ⟨_, h⟩ | ⟨_, rfl⟩
      · exact h
      · exact absurd ha hS.fresh

theorem Open.pending_snoc {pre C : List StatE} {z : StatE} (hO : Open pre C) (hS : Core pre z) (sel : Path → Bool) :
    (chainNext C z).filter (fun x => !keep sel (pre ++ [z]) x) =
      if sel z.path then []
      else (C.filter (fun x => underB x.path z.path)).filter (fun x => !keep sel pre x) ++ if z.isDir then [z] else [] := by
  have hanc : (C.filter (fun x => underB x.path z.path)).filter (fun x => !keep sel (pre ++ [z]) x) =
      (C.filter (fun x => underB x.path z.path)).filter (fun x => !(keep sel pre x || sel z.path)) :=
    List.filter_congr fun x hx => by
      obtain ⟨hC, hu⟩ := List.mem_filter.mp hx
      rw [keep_anc (hO.dirs x hC) hu]
  have hz : (if z.isDir then [z] else []).filter (fun x => !keep sel (pre ++ [z]) x) =
      if sel z.path then [] else if z.isDir then [z] else [] := by
    cases z.isDir <;> cases hs : sel z.path <;> simp [keep_self hS, hs]
  rw [chainNext, List.filter_append, hanc, hz]
  cases sel z.path <;> simp

theorem Open.filter_keep_snoc {pre C : List StatE} {z : StatE} (hO : Open pre C) (hS : Core pre z) (sel : Path → Bool) :
    (pre ++ [z]).filter (keep sel (pre ++ [z])) =
      pre.filter (keep sel pre) ++
        if sel z.path then (C.filter (fun x => underB x.path z.path)).filter (fun x => !keep sel pre x) ++ [z] else [] := by
  rw [List.filter_append, List.filter_cons, List.filter_nil, keep_self hS]
  cases hsel : sel z.path with
  | false =>
    simp only [Bool.false_eq_true, if_false, List.append_nil]
    exact List.filter_congr fun x _ => by simp [keep_snoc, hsel]
  | true =>
    simp only [if_true, ← List.append_assoc]
    congr 1
    rw [← hO.next z hS, List.filter_filter,
      ← filter_or_split (keep sel pre) (fun x => !keep sel pre x && underB x.path z.path)]
    · -- due now = due before, or an ancestor (so: a directory) of `z` that was not
      exact List.filter_congr fun x hx => by
        rw [keep_snoc, hsel]
        cases hz : underB x.path z.path with
        | false => simp
        | true => simp [hS.dirs x hx hz]
    · intro a _ hn
      simpa using ((Bool.and_eq_true _ _).mp hn).1
    · -- what follows an open directory lies below it, so it was not due either
      refine hO.below.imp_of_mem ?_
      intro a b ha hb hab hn
      simp only [Bool.and_eq_true, Bool.not_eq_true'] at hn
      obtain ⟨hak, haz⟩ := hn
      have haC : a ∈ C := by
        have : a ∈ pre.filter (fun x => underB x.path z.path) := List.mem_filter.mpr ⟨ha, haz⟩
        rw [hO.next z hS] at this
        exact (List.mem_filter.mp this).1
      cases hkb : keep sel pre b with
      | false => rfl
      | true => rw [keep_up (hO.dirs a haC) (hab haC) hb hkb] at hak; cases hak

end Fsm.Pend
