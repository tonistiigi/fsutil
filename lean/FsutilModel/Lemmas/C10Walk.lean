import FsutilModel.Lemmas.C10Chain
import FsutilModel.Lemmas.C16Walk
/-! C10 without negations, pruning off: `filterWalk_reference` is the strong form (equal as lists: order and multiplicity);
the theorem the documents name, `filterWalk_eq_reference`, is its membership form. -/
namespace Fsm.C10W
open P F C16L C16W C10C

theorem selected_eq_canOpen (cfg : Cfg) (hni : ∀ p ∈ cfg.inc, p.neg = false) (hnx : ∀ p ∈ cfg.exc, p.neg = false) :
    selected cfg.inc cfg.exc = canOpen cfg := by
  funext p
  have hi := chain_eq_stateless cfg.inc hni p
  have hx := chain_eq_stateless cfg.exc hnx p
  rw [uprChain_eq] at hi hx
  simp only [selected, canOpen, hi, hx]

theorem filterWalk_reference (cfg : Cfg) (hp : cfg.prune = false) (hm : cfg.map = [])
    (hf : (!cfg.inc.isEmpty || !cfg.exc.isEmpty) = true)
    (hni : ∀ p ∈ cfg.inc, p.neg = false) (hnx : ∀ p ∈ cfg.exc, p.neg = false)
    (l : List StatE) (hC : Canon l) : filterWalk true cfg l = reference cfg l := by
  rw [filterWalk_eq cfg hp hm hf l hC, selected_eq_canOpen cfg hni hnx]
  -- `refKept cfg e` is `canOpen cfg e.path`
  simp only [reference, List.any_filter]
  rfl

/-- **C10 for negation-free pattern lists, pruning off**: the filtered walk of a canonical listing reports exactly the entries
the naive reference filter keeps (every entry tested with the stateless matcher, plus the directories above kept entries). -/
theorem filterWalk_eq_reference (cfg : Cfg) (hp : cfg.prune = false) (hm : cfg.map = [])
    (hf : (!cfg.inc.isEmpty || !cfg.exc.isEmpty) = true)
    (hni : ∀ p ∈ cfg.inc, p.neg = false) (hnx : ∀ p ∈ cfg.exc, p.neg = false)
    (l : List StatE) (hC : Canon l) :
    ∀ e, e ∈ filterWalk true cfg l ↔ e ∈ reference cfg l := by
  intro e
  rw [filterWalk_reference cfg hp hm hf hni hnx l hC]

end Fsm.C10W
