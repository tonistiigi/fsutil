import FsutilModel.Prune
import FsutilModel.PruneSyn
import FsutilModel.Model.Filter
/-! The executable matcher of Model/Pattern.lean as an instance of the abstract one (`Pr.go`) and, on literal and `t/**`
patterns, of the syntactic one (`PS.m`): what the theorems of Props/C10.lean transport their abstract counterparts along. -/
namespace Fsm.C10
open P
open F

def toAbs (p : P.Pat) : Pr.Pat := ⟨p.neg, fun x => patMatch p x⟩

/-- the pattern as `MatchesUsingParentResults` evaluates it: with the zero parent info (`top`) a match of a parent prefix counts too -/
def toAbsAt (top : Bool) (p : P.Pat) : Pr.Pat :=
  ⟨p.neg, fun x => patMatch p x || (top && (parentPrefixes x).any (patMatch p))⟩

theorem toAbsAt_false : toAbsAt false = toAbs := by
  funext p; simp [toAbsAt, toAbs]

theorem uprGo_cons (path : List Nat) (parent : List Bool) (p : P.Pat) (rest : List P.Pat) (par : List Bool)
    (matched : Bool) (acc : List Bool) :
    matchesUPR.go path parent (p :: rest) par matched acc =
      matchesUPR.go path parent rest par.tail (Pr.flagOf (toAbsAt parent.isEmpty p) (par.headD false) path matched)
        (Pr.mtOf (toAbsAt parent.isEmpty p) (par.headD false) path matched :: acc) := by
  -- the code decides by branching what `mtOf` holds as a value …
  have key (a : Bool) (F : Bool → Bool × List Bool) :
      (if a = true then F true else if ((toAbsAt parent.isEmpty p).neg != matched) = true then F false
        else F ((toAbsAt parent.isEmpty p).m path)) =
        F (Pr.mtOf (toAbsAt parent.isEmpty p) a path matched) := by
    rw [Pr.mtOf, apply_ite F, apply_ite F]
  -- … and reads the parent bit by a `match` on `par`
  cases par with
  | nil => exact key false fun mt => matchesUPR.go path parent rest [] (if mt then !p.neg else matched) (mt :: acc)
  | cons a as => exact key a fun mt => matchesUPR.go path parent rest as (if mt then !p.neg else matched) (mt :: acc)

theorem uprGo_eq (path : List Nat) (parent : List Bool) :
    ∀ (ps : List P.Pat) (par : List Bool) (matched : Bool) (acc : List Bool),
      matchesUPR.go path parent ps par matched acc =
        ((Pr.go (ps.map (toAbsAt parent.isEmpty)) par path matched).1,
          acc.reverse ++ (Pr.go (ps.map (toAbsAt parent.isEmpty)) par path matched).2)
  | [], _, _, _ => by simp [matchesUPR.go, Pr.go]
  | p :: rest, par, matched, acc => by
    rw [uprGo_cons, uprGo_eq path parent rest, List.map_cons, Pr.go_cons]
    simp

theorem matchesUPR_eq_at (ps : List P.Pat) (path : List Nat) (I : List Bool) :
    matchesUPR ps path I = Pr.upr (ps.map (toAbsAt I.isEmpty)) I path := by
  rw [matchesUPR, uprGo_eq]; rfl

theorem matchesUPR_toAbs {ps : List P.Pat} {I : List Bool} (hI : I.length = ps.length) (path : List Nat) :
    matchesUPR ps path I = Pr.upr (ps.map toAbs) I path := by
  rw [matchesUPR_eq_at]
  cases I with
  | nil => rw [List.eq_nil_of_length_eq_zero hI.symm]; rfl
  | cons => rw [List.isEmpty_cons, toAbsAt_false]

theorem uprFold_toAbs {ps : List P.Pat} (xs : List (List Nat)) (I : List Bool) (b : Bool)
    (hI : I.length = ps.length) :
    xs.foldl (fun (acc : List Bool × Bool) x => let r := matchesUPR ps x acc.1; (r.2, acc.2 || r.1)) (I, b) =
    xs.foldl (fun (acc : List Bool × Bool) x => let r := Pr.upr (ps.map toAbs) acc.1 x; (r.2, acc.2 || r.1)) (I, b) :=
  (List.foldl_rel (r := fun s s' => s = s' ∧ s.1.length = ps.length) ⟨rfl, hI⟩ fun x _ s s' ⟨e, hl⟩ => by
    subst e
    rw [matchesUPR_toAbs hl]
    exact ⟨rfl, by rw [Pr.upr_length, List.length_map]⟩).1

theorem matchesOrParent_eq (ps : List P.Pat) (path : List Nat) : matchesOrParent ps path = (matchesUPR ps path []).1 := by
  rw [matchesUPR_eq_at, Pr.upr, Pr.go_nil_fst, List.foldl_map]
  simp only [Pr.flagOf_false]
  rfl

theorem patMatch_exact {p : P.Pat} (h : p.mt = .exact) (q : List Nat) : patMatch p q = PS.m (.exact p.text) q := by
  simp [patMatch, h, PS.m, Bool.beq_eq_decide_eq]

theorem patMatch_dstar {p : P.Pat} {t : List Nat} (h : p.mt = .prefix_) (ht : p.text = t ++ [47, 42, 42]) (q : List Nat) :
    patMatch p q = PS.m (.dstar t) q := by
  have : p.text.take (p.text.length - 2) = t ++ [sep] := by
    rw [ht, show t ++ [47, 42, 42] = (t ++ [sep]) ++ [42, 42] by simp]
    exact List.take_left' (by simp)
  simp [patMatch, h, PS.m, this]

end Fsm.C10
