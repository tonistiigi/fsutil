import FsutilModel.Model.RecvProto
import FsutilModel.Basic
/-! The receiver LTS `Fsm.R`: the invariant behind C07. The case analyses of `step` leave its accepting branches, in the order
of the definition: rStat, rEnd, sReq, rData, rTerm, sFin. -/
namespace Fsm.R
variable {s s' s0 : St} {e : Ev} {es : List Ev} {need : List Nat}

theorem run_eq : run = runOpt step := by
  funext s es
  induction es generalizing s with
  | nil => rfl
  | cons e es ih => rw [run, runOpt_cons, ← funext ih]; cases step s e <;> rfl

theorem run_induction {P : List Ev → St → Prop} (hP : ∀ {es s e s'}, P es s → step s e = some s' → P (es ++ [e]) s')
    (p0 : P [] s0) (h : run s0 es = some s) : P es s :=
  runOpt_induction hP p0 (run_eq ▸ h)

theorem run_preserves {inv : St → Prop} (i0 : inv s0) (hinv : ∀ {s e s'}, inv s → step s e = some s' → inv s')
    (h : run s0 es = some s) : inv s :=
  run_induction (P := fun _ => inv) hinv i0 h

structure Inv (s : St) : Prop where
  reqNeed : ∀ id ∈ s.reqd, id ∈ s.need ∧ id < s.statsRecv
  reqNodup : s.reqd.Nodup
  termReq : ∀ id ∈ s.termd, id ∈ s.reqd
  termNodup : s.termd.Nodup
  storedReq : ∀ x ∈ s.stored, x.1 ∈ s.reqd
  fin : s.finSent = true → s.endSeen = true ∧ ∀ id ∈ s.need, id ∈ s.termd

theorem inv_init (need : List Nat) : Inv { need := need } :=
  { reqNeed := nofun, reqNodup := .nil, termReq := nofun, termNodup := .nil, storedReq := nofun, fin := nofun }

theorem inv_step (hi : Inv s) (h : step s e = some s') : Inv s' := by
  revert h; fun_cases step s e <;> intro h <;> cases h
  · exact { hi with reqNeed := fun id h => ⟨(hi.reqNeed id h).1, Nat.lt_succ_of_lt (hi.reqNeed id h).2⟩ }
  · exact { hi with fin := fun h => ⟨rfl, (hi.fin h).2⟩ }
  · next hc =>
    obtain ⟨hlt, hneed, hnew, hnf⟩ := hc
    exact { hi with
      reqNeed := List.forall_mem_cons.mpr ⟨⟨hneed, hlt⟩, hi.reqNeed⟩
      reqNodup := List.nodup_cons.mpr ⟨hnew, hi.reqNodup⟩
      termReq := fun i h => List.mem_cons_of_mem _ (hi.termReq i h)
      storedReq := fun x h => List.mem_cons_of_mem _ (hi.storedReq x h)
      fin := fun h => Bool.noConfusion (hnf.symm.trans h) }
  · next hc =>
    exact { hi with storedReq := List.forall_mem_append.mpr ⟨hi.storedReq, List.forall_mem_singleton.mpr hc.1⟩ }
  · next hc =>
    exact { hi with
      termReq := List.forall_mem_cons.mpr ⟨hc.1, hi.termReq⟩
      termNodup := List.nodup_cons.mpr ⟨hc.2, hi.termNodup⟩
      fin := fun h => ⟨(hi.fin h).1, fun i hn => List.mem_cons_of_mem _ ((hi.fin h).2 i hn)⟩ }
  · next hc => exact { hi with fin := fun _ => ⟨hc.1, hc.2.2⟩ }

theorem inv_run (h : run { need := need } es = some s) : Inv s :=
  run_preserves (inv_init need) inv_step h

theorem step_need (h : step s e = some s') : s'.need = s.need := by
  revert h; fun_cases step s e <;> intro h <;> cases h <;> rfl

theorem step_stored : step s e = some s' →
    s'.stored = match e with | .rData id b => s.stored ++ [(id, b)] | _ => s.stored := by
  fun_cases step s e <;> intro h <;> cases h <;> rfl

theorem step_finSent : step s e = some s' → s'.finSent = match e with | .sFin => true | _ => s.finSent := by
  fun_cases step s e <;> intro h <;> cases h <;> rfl

theorem need_run (h : run { need := need } es = some s) : s.need = need :=
  run_preserves (inv := fun s => s.need = need) rfl (fun hn h => (step_need h).trans hn) h

theorem payloads_append (id : Nat) (es es' : List Ev) : payloads id (es ++ es') = payloads id es ++ payloads id es' := by
  induction es with
  | nil => rfl
  | cons e es ih =>
    cases e with
    | rData i b => by_cases hi : i = id <;> simp [payloads, hi, ih]
    | _ => exact ih

theorem storedFor_step (h : step s e = some s') (id : Nat) :
    storedFor id s' = storedFor id s ++ payloads id [e] := by
  rw [storedFor, step_stored h]
  cases e with
  | rData i b => by_cases hi : i = id <;> simp [storedFor, payloads, List.filter_append, hi]
  | _ => exact (List.append_nil _).symm

theorem storedFor_run (h : run s0 es = some s) (id : Nat) :
    storedFor id s = storedFor id s0 ++ payloads id es :=
  run_induction (P := fun es s => storedFor id s = storedFor id s0 ++ payloads id es)
    (fun ih h => by rw [storedFor_step h, ih, payloads_append, List.append_assoc]) (List.append_nil _).symm h

theorem afterFin_step (hf : s.finSent = true) (h : step s e = some s') :
    s'.finSent = true ∧ (∀ id, e ≠ .sReq id) ∧ e ≠ .sFin := by
  cases e with
  | sReq id => simp [step, hf] at h
  | sFin => simp [step, hf] at h
  | _ => exact ⟨(step_finSent h).trans hf, nofun, nofun⟩

theorem afterFin_run (hf : s0.finSent = true) (h : run s0 es = some s) :
    ∀ e ∈ es, (∀ id, e ≠ .sReq id) ∧ e ≠ .sFin :=
  (run_induction (P := fun es s => s.finSent = true ∧ ∀ e ∈ es, (∀ id, e ≠ .sReq id) ∧ e ≠ .sFin)
    (fun ⟨hf, ih⟩ h =>
      ⟨(afterFin_step hf h).1, List.forall_mem_append.mpr ⟨ih, List.forall_mem_singleton.mpr (afterFin_step hf h).2⟩⟩)
    ⟨hf, nofun⟩ h).2

end Fsm.R
