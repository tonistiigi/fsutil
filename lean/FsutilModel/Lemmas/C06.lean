import FsutilModel.Sender
/-! Further invariants of the abstract sender LTS for C06: the STAT counter, the terminator count, the request discipline. -/
namespace Fsm.S
variable {s s' : St} {e : Ev} {v : List (Bool × Bytes)} {es : List Ev}

structure StatInv (s : St) : Prop where
  le : s.sent ≤ s.view.length
  fin : s.endSent = true → s.sent = s.view.length

theorem statInv_step (hi : StatInv s) (h : step s e = some s') : StatInv s' := by
  revert h; fun_cases step s e <;> intro h <;> cases h
  -- sendStat
  · next hlt => exact ⟨hlt, fun he => absurd (hi.fin he) (Nat.ne_of_lt hlt)⟩
  -- sendEnd
  · next hc => exact ⟨hi.le, fun _ => hc.1⟩
  all_goals exact ⟨hi.le, hi.fin⟩

theorem statInv_run (h : run (init v) es = some s) : StatInv s :=
  run_preserves ⟨Nat.zero_le _, fun h => Bool.noConfusion h⟩ statInv_step h

def TermInv (s : St) : Prop := ∀ id, terms id s.out = if s.phase id = .finished then 1 else 0

theorem terms_append (id : Nat) (o o' : List (Nat × Bytes)) : terms id (o ++ o') = terms id o + terms id o' := by
  simp only [terms, List.filter_append, List.length_append]

theorem Edge.terms_count {reg bs i e p p' em} (h : Edge reg bs i e p p' em) :
    (if p = .finished then 1 else 0) + terms i em = if p' = .finished then 1 else 0 := by
  cases h with
  | @data off k hk hle =>
    have : (bs.drop off).take k ≠ [] := List.ne_nil_of_length_pos (by rw [List.length_take, List.length_drop]; omega)
    simp [terms, this]
  | term => simp [terms]
  | _ => rfl

theorem terms_foreign {id : Nat} {em : List (Nat × Bytes)} (h : ∀ x ∈ em, x.1 ≠ id) : terms id em = 0 := by
  rw [terms, List.filter_eq_nil_iff.2 fun x hx => by simp [h x hx]]; rfl

theorem termInv_step (hi : Inv s) (ht : TermInv s) (h : step s e = some s') : TermInv s' := by
  intro id
  obtain ⟨em, ho, ⟨hp, hem⟩ | ⟨hE, -⟩⟩ := step_at hi h id
  · rw [ho, hp, terms_append, terms_foreign hem]; exact ht id
  · rw [ho, terms_append, ht id]; exact hE.terms_count

theorem termInv_run (h : run (init v) es = some s) : TermInv s :=
  run_induction (P := fun _ => TermInv) termInv_step (fun _ => rfl) h

/-- the phases an id reaches only through a request -/
def wasRequested : Phase → Bool
  | .queued => true
  | .active _ => true
  | .finished => true
  | _ => false

theorem wasRequested_of_sent (hi : Inv s) (ht : TermInv s) {id : Nat} (hd : dataFor id s.out ≠ [] ∨ 0 < terms id s.out) :
    wasRequested (s.phase id) = true := by
  rw [hi.data id, ht id] at hd
  cases hp : s.phase id with
  -- before the request `prog` is 0, so no byte has gone out, and the phase is not `finished`, so no terminator has
  | unannounced | requestable => simp [hp, prog_unannounced, prog_requestable] at hd
  | _ => rfl

theorem Edge.wasRequested {reg bs i e p p' em} (h : Edge reg bs i e p p' em) (hp : wasRequested p' = true) :
    wasRequested p = true ∨ e = .recvReq i := by
  cases h with
  | announce => cases hp
  | request => exact .inr rfl
  | _ => exact .inl rfl

theorem wasRequested_step (hi : Inv s) (h : step s e = some s') {id : Nat} (hp : wasRequested (s'.phase id) = true) :
    wasRequested (s.phase id) = true ∨ e = .recvReq id := by
  obtain ⟨em, -, ⟨hph, -⟩ | ⟨hE, -⟩⟩ := step_at hi h id
  · exact .inl (hph ▸ hp)
  · exact hE.wasRequested hp

theorem wasRequested_run (h : run (init v) es = some s) (id : Nat) (hp : wasRequested (s.phase id) = true) :
    Ev.recvReq id ∈ es :=
  run_induction (P := fun es s => wasRequested (s.phase id) = true → Ev.recvReq id ∈ es)
    (fun hi ih h hp => (wasRequested_step hi h hp).elim (fun hp => List.mem_append_left _ (ih hp))
      (fun he => he ▸ List.mem_append_right _ (List.mem_singleton_self _)))
    nofun h hp

end Fsm.S
