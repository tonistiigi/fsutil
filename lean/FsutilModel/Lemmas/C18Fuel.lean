import FsutilModel.Basic
import FsutilModel.Model.FollowLinks
/-! C18: the transcription of `symlinkResolver.append` recurses on a fuel argument (the code itself terminates because every link
is recorded in `resolved` before it is followed).  `appendLoopX` is the same function with a flag that is raised when the fuel
runs out; when the flag stays down, the result is the same for every larger fuel.
The driver reports the flag for every case, so a model answer that was cut short is never compared with the code. -/
namespace Fsm.FL

def appendLoopX (l : List Ent) : Nat → List Path × Bool → Path → Path → List Path × Bool
  | 0, (resolved, _), _, _ => (resolved, true)
  | fuel+1, (resolved, ex), current0, p =>
    let (first, rest) := splitFirst p
    let current := joinB [current0, first]
    let targets := readSymlink l current true
    let p' := rest
    if (p' = [] ∨ targets.isSome) ∧ resolved.contains current then (resolved, ex)
    else match targets with
      | some ts =>
        ts.foldl (fun res t => appendLoopX l fuel res [dot] (joinB [[dot], joinB [t, p']])) (current :: resolved, ex)
      | none =>
        if p' = [] then (current :: resolved, ex)
        else appendLoopX l fuel (resolved, ex) current p'

theorem appendLoopX_fst (l : List Ent) (n : Nat) : ∀ (r : List Path) (e : Bool) (c p : Path),
    (appendLoopX l n (r, e) c p).1 = appendLoop l n r c p := by
  induction n with
  | zero => exact fun _ _ _ _ => rfl
  | succ n ih =>
    intro r e c p
    simp only [appendLoopX, appendLoop]
    let P (x : List Path × Bool) (y : List Path) := x.1 = y
    refine ite_rel P rfl ?_
    generalize readSymlink l _ true = tg
    cases tg with
    | some ts => exact (List.foldl_hom Prod.fst fun x _ => (ih x.1 x.2 _ _).symm).symm
    | none => exact ite_rel P rfl (ih _ _ _ _)

theorem fuel_stable (l : List Ent) (n k : Nat) : ∀ (r : List Path) (e : Bool) (c p : Path),
    (appendLoopX l n (r, e) c p).2 = false → e = false ∧ appendLoopX l (n + k) (r, e) c p = appendLoopX l n (r, e) c p := by
  induction n with
  | zero => exact fun _ _ _ _ => nofun
  | succ n ih =>
    intro r e c p
    rw [Nat.add_right_comm]
    simp only [appendLoopX]
    -- the runs with fuel `n + 1` (`x`) and `n + k + 1` (`y`) branch on the same conditions
    let P (x y : List Path × Bool) := x.2 = false → e = false ∧ y = x
    refine ite_rel P (fun h => ⟨h, rfl⟩) ?_
    generalize readSymlink l _ true = tg
    cases tg with
    | some ts => exact foldl_stable Prod.snd _ _ (fun b _ => ih b.1 b.2 _ _) ts _
    | none => exact ite_rel P (fun h => ⟨h, rfl⟩) (ih _ _ _ _)

theorem flag_false_init (l : List Ent) (n : Nat) (r : List Path) (e : Bool) (c p : Path)
    (h : (appendLoopX l n (r, e) c p).2 = false) : e = false :=
  (fuel_stable l n 0 r e c p h).1

def resolveAllX (l : List Ent) (fuel : Nat) (paths : List Path) : List Path × Bool :=
  paths.foldl (fun acc p => appendLoopX l fuel acc [dot] (normReq Fix.f18 p)) ([], false)

theorem resolveAllX_fst (l : List Ent) (fuel : Nat) (paths : List Path) :
    (resolveAllX l fuel paths).1 = paths.foldl (fun res p => appendLoop l fuel res [dot] (normReq Fix.f18 p)) [] :=
  (List.foldl_hom Prod.fst fun x _ => (appendLoopX_fst l fuel x.1 x.2 _ _).symm).symm

theorem resolveAllX_stable (l : List Ent) (fuel k : Nat) (paths : List Path) (h : (resolveAllX l fuel paths).2 = false) :
    resolveAllX l (fuel + k) paths = resolveAllX l fuel paths :=
  (foldl_stable Prod.snd _ _ (fun b _ hb => fuel_stable l fuel k b.1 b.2 _ _ hb) paths _ h).2

end Fsm.FL
