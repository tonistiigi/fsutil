import FsutilModel.Model.Tar
import FsutilModel.Model.CopyB
/-! Unix mode bits (the tar mode field of C17, the copy option `mode` of C13) against the permission and special bits of Go's
`os.FileMode`: `T.unixPerm` and `C.goPermOfUnix` are each the low nine bits together with three flags moved to other
positions, so reading one through the other is masking an or of disjoint parts. -/
namespace Fsm

theorem ite_and (b : Bool) (c M : Nat) : (if b then c else 0) &&& M = if b then c &&& M else 0 := by
  rw [apply_ite (· &&& M), Nat.zero_and]

/-- `c` is a numeral at the uses and `hc` is `rfl`: Lean unfolds written-out powers when elaborating -/
theorem add_flag {x c k : Nat} (hc : c = 2 ^ k) (b : Bool) (hx : x < c) :
    x + (if b then c else 0) = x ||| (if b then c else 0) ∧ x + (if b then c else 0) < 2 * c := by
  subst hc
  cases b
  · exact ⟨(Nat.or_zero x).symm, by simp; omega⟩
  · exact ⟨(Nat.or_two_pow_eq_add_of_lt hx).symm, by simp; omega⟩

theorem unixPerm_eq (m : Nat) : T.unixPerm m =
    m &&& 511 ||| (if m &&& modeSticky != 0 then 512 else 0) ||| (if m &&& modeSetgid != 0 then 1024 else 0) |||
      (if m &&& modeSetuid != 0 then 2048 else 0) := by
  have h9 := add_flag (c := 512) (k := 9) rfl (m &&& modeSticky != 0) (Nat.and_lt_two_pow m (y := 511) (n := 9) (by decide))
  have h10 := add_flag (c := 1024) (k := 10) rfl (m &&& modeSetgid != 0) h9.2
  have h11 := add_flag (c := 2048) (k := 11) rfl (m &&& modeSetuid != 0) h10.2
  rw [← h9.1, ← h10.1, ← h11.1]
  unfold T.unixPerm
  ac_rfl

theorem unixPerm_facts (m : Nat) :
    T.unixPerm m &&& 511 = m &&& 511 ∧
    (T.unixPerm m &&& 2048 != 0) = (m &&& modeSetuid != 0) ∧
    (T.unixPerm m &&& 1024 != 0) = (m &&& modeSetgid != 0) ∧
    (T.unixPerm m &&& 512 != 0) = (m &&& modeSticky != 0) := by
  have flag : ∀ (b : Bool) (c : Nat), c ≠ 0 → ((if b then c else 0) != 0) = b := by
    intro b c h; cases b <;> simp [h]
  rw [unixPerm_eq]
  generalize (m &&& modeSetuid != 0) = bs
  generalize (m &&& modeSetgid != 0) = bg
  generalize (m &&& modeSticky != 0) = bt
  -- each mask meets exactly one of the four summands (`511 &&& 511 = 511`, `512 &&& 512 = 512`, …, every mixed `&&&` is 0)
  simp [Nat.and_or_distrib_right, Nat.and_assoc, ite_and, flag]

theorem and_two_pow (m k : Nat) : m &&& 2 ^ k = if m.testBit k then 2 ^ k else 0 := by
  apply Nat.eq_of_testBit_eq; intro i
  rw [Nat.testBit_and, Nat.testBit_two_pow]
  by_cases hk : k = i
  · subst hk; cases m.testBit k <;> simp
  · cases m.testBit k <;> simp [hk]

theorem and_flag {c k : Nat} (hc : c = 2 ^ k) (m : Nat) : (if m &&& c != 0 then c else 0) = m &&& c := by
  subst hc
  rw [and_two_pow]
  cases m.testBit k <;> simp

theorem perm_round_trip (m : Nat) : C.goPermOfUnix (T.unixPerm m) = m &&& C.permMask := by
  obtain ⟨h1, h2, h3, h4⟩ := unixPerm_facts m
  unfold C.goPermOfUnix C.permMask
  rw [h1, h2, h3, h4, Nat.and_or_distrib_left, Nat.and_or_distrib_left, Nat.and_or_distrib_left,
    and_flag (c := modeSetuid) (k := 23) rfl, and_flag (c := modeSetgid) (k := 22) rfl, and_flag (c := modeSticky) (k := 20) rfl]

namespace C

theorem goPerm_within_mask (m : Nat) : goPermOfUnix m &&& permMask = goPermOfUnix m := by
  have e1 : (511 : Nat) &&& permMask = 511 := by decide
  have e2 : modeSetuid &&& permMask = modeSetuid := by decide
  have e3 : modeSetgid &&& permMask = modeSetgid := by decide
  have e4 : modeSticky &&& permMask = modeSticky := by decide
  unfold goPermOfUnix
  rw [Nat.and_or_distrib_right, Nat.and_or_distrib_right, Nat.and_or_distrib_right, ite_and, ite_and, ite_and, Nat.and_assoc, e1, e2, e3, e4]

def typeMask : Nat := 4294967295 - permMask

theorem masks_disjoint : typeMask &&& permMask = 0 := by decide

theorem set_masked_bits {T P : Nat} (hd : T &&& P = 0) (a g : Nat) (hg : g &&& P = g) :
    ((a &&& T) ||| g) &&& P = g ∧ ((a &&& T) ||| g) &&& T = a &&& T := by
  constructor
  · rw [Nat.and_or_distrib_right, Nat.and_assoc, hd, Nat.and_zero, Nat.zero_or, hg]
  · have hz : g &&& T = 0 := by
      rw [← hg, Nat.and_assoc, Nat.and_comm P, hd, Nat.and_zero]
    rw [Nat.and_or_distrib_right, Nat.and_assoc, Nat.and_self, hz, Nat.or_zero]

end C
end Fsm
