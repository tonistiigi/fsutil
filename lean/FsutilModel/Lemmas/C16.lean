import FsutilModel.Model.CopyB
/-! The copier's selection (`C.included`, which recomputes the parent-result chain along the ancestors of every entry) against
the decision the callback of `filterFS.Walk` takes with the match infos it keeps on its directory stack: the callback in
closed form, `callback_full`. -/
namespace Fsm.C16L
open P F

/-- match info of the last element of an ancestor chain, computed as a walk does -/
def chainInfo (ps : List Pat) (l : List Path) : List Bool :=
  (l.foldl (fun (acc : Bool × List Bool) q => matchesUPR ps q acc.2) (false, [])).2

theorem chainInfo_nil (ps : List Pat) : chainInfo ps [] = [] := rfl

theorem chainInfo_snoc (ps : List Pat) (l : List Path) (q : Path) :
    chainInfo ps (l ++ [q]) = (matchesUPR ps q (chainInfo ps l)).2 := by
  simp [chainInfo, List.foldl_append]

theorem chainInfo_nopatterns (l : List Path) : chainInfo [] l = [] :=
  List.foldlRecOn l _ (motive := fun acc : Bool × List Bool => acc.2 = []) rfl fun _ _ _ _ => rfl

theorem uprChain_eq (ps : List Pat) (rel : Path) :
    C.uprChain ps rel = (matchesUPR ps rel (chainInfo ps (parentPrefixes rel))).1 := by
  simp [C.uprChain, chainInfo, List.foldl_append]

/-- the directory stack as the callback sees it for `e`: entries that are not ancestors of `e` popped -/
def stackFor (cfg : Cfg) (pd0 : List VDir) (e : StatE) : List VDir :=
  if !cfg.inc.isEmpty || !cfg.exc.isEmpty then (callback.pop e pd0.reverse).reverse else pd0

theorem stackFor_nil (cfg : Cfg) (e : StatE) : stackFor cfg [] e = [] := by
  unfold stackFor
  split <;> rfl

def selected (inc exc : List Pat) (rel : Path) : Bool :=
  (inc.isEmpty || (matchesUPR inc rel (chainInfo inc (parentPrefixes rel))).1) &&
  !(!exc.isEmpty && (matchesUPR exc rel (chainInfo exc (parentPrefixes rel))).1)

theorem included_eq_selected (a : C.Args) (rel : Path) (h : rel ≠ []) : C.included a rel = selected a.inc a.exc rel := by
  simp [C.included, selected, uprChain_eq, h]

theorem mapOf_keep {cfg : Cfg} (hm : cfg.map = []) (p : Path) : mapOf cfg p = .keep := by
  simp [mapOf, hm]

def mark (b : Bool) (d : VDir) : VDir := { d with calledFn := d.calledFn || b }

theorem mark_false : mark false = id := by
  funext d
  simp [mark]

theorem emitParents_spec (cfg : Cfg) (hm : cfg.map = []) :
    ∀ (pd done : List VDir) (out : List StatE), (∀ d ∈ pd, d.skipFn = false) →
      emitParents cfg pd done out =
        (done.reverse ++ pd.map (mark true), out.reverse ++ (pd.filter (fun d => !d.calledFn)).map (·.st), false)
  | [], done, out, _ => by simp [emitParents]
  | d :: rest, done, out, h => by
    have hd := h d List.mem_cons_self
    have ih := fun done out => emitParents_spec cfg hm rest done out fun x hx => h x (List.mem_cons_of_mem _ hx)
    rw [emitParents, if_neg (by simp [hd])]
    cases hc : d.calledFn with
    | true =>
      have : mark true d = d := by rw [mark, Bool.or_true, ← hc]
      simp [ih, this, hc]
    | false => simp [ih, mapOf_keep hm, mark, applyMap, hc, hd]

/-- the verdict of one pattern list on `p`, given the chain info of `p`'s ancestors (`b`: the verdict of the empty list) -/
def verdict (ps : List Pat) (b : Bool) (p : Path) : Bool :=
  if ps.isEmpty then b else (matchesUPR ps p (chainInfo ps (parentPrefixes p))).1

theorem not_selected (inc exc : List Pat) (rel : Path) :
    (!selected inc exc rel) = (!verdict inc true rel || verdict exc false rel) := by
  cases hi : inc.isEmpty <;> cases hx : exc.isEmpty <;> simp [selected, verdict, hi, hx]

theorem matchInfo_eq (ps : List Pat) (b : Bool) (p : Path) :
    (if ps.isEmpty then ((b, []) : Bool × List Bool) else matchesUPR ps p (chainInfo ps (parentPrefixes p))) =
      (verdict ps b p, chainInfo ps (parentPrefixes p ++ [p])) := by
  cases ps with
  | nil => simp [verdict, chainInfo_nopatterns]
  | cons q r => simp [verdict, chainInfo_snoc]

def vdirOf (cfg : Cfg) (e : StatE) (c : Bool) : VDir :=
  ⟨e, e.path ++ [47], chainInfo cfg.inc (parentPrefixes e.path ++ [e.path]), chainInfo cfg.exc (parentPrefixes e.path ++ [e.path]), c, false⟩

/-- **The callback of `filterFS.Walk` in full** (pruning off, no map function), for a stack topped by the chain infos of
`e`'s ancestors (nothing recorded when `e` is at the top level).  With a pattern list, a directory `e` is pushed with the
chain infos of `e` itself, which is the premise again for the entries directly below `e`. -/
theorem callback_full (cfg : Cfg) (hp : cfg.prune = false) (hm : cfg.map = []) (pd0 : List VDir) (e : StatE)
    (hsk : ∀ d ∈ stackFor cfg pd0 e, d.skipFn = false)
    (hinc : (((stackFor cfg pd0 e).getLast?).map (·.inc)).getD [] = chainInfo cfg.inc (parentPrefixes e.path))
    (hexc : (((stackFor cfg pd0 e).getLast?).map (·.exc)).getD [] = chainInfo cfg.exc (parentPrefixes e.path)) :
    callback true cfg pd0 e =
      ((stackFor cfg pd0 e).map (mark (selected cfg.inc cfg.exc e.path)) ++
          (if (!cfg.inc.isEmpty || !cfg.exc.isEmpty) && e.isDir then [vdirOf cfg e (selected cfg.inc cfg.exc e.path)] else []),
        if selected cfg.inc cfg.exc e.path then ((stackFor cfg pd0 e).filter (fun d => !d.calledFn)).map (·.st) ++ [e] else [],
        .cont) := by
  unfold callback
  simp only [hp, Bool.and_false, Bool.false_and, Bool.false_eq_true, if_false, mapOf_keep hm]
  rw [← stackFor, hinc, hexc, matchInfo_eq, matchInfo_eq, emitParents_spec cfg hm _ _ _ hsk]
  simp only [← not_selected, List.reverse_nil, List.nil_append, applyMap, vdirOf, Bool.false_eq_true, if_false]
  -- `e` not selected, then `e` selected; in both what is left is where the `if` of the push stands: the callback has it
  -- around `S ++ [d]`, the statement after the `++`
  cases selected cfg.inc cfg.exc e.path
  · simp only [Bool.not_false, if_true, mark_false, List.map_id]
    split <;> simp
  · simp only [Bool.not_true, Bool.false_eq_true, if_false, if_true]
    split <;> simp

end Fsm.C16L
