import FsutilModel.Basic
import FsutilModel.Model.Filter
/-! The step equations of `hardlinkResetGo`, and the invariant under which what it announces is closed under link names. -/
namespace Fsm.C11
open F

/-- neither directory nor symlink: the entries the reset keeps track of (anything else passes through untouched) -/
def NonDir (e : StatE) : Prop := (e.isDir || e.isSymlink) = false

theorem NonDir.eq {e : StatE} (h : NonDir e) : (e.isDir || e.isSymlink) = false := h

def linkPaths (l : List StatE) : List Path :=
  (l.filter fun e => !(e.isDir || e.isSymlink) && e.linkname != []).map (·.path)

theorem mem_linkPaths {l : List StatE} {e : StatE} (he : e ∈ l) (hn : NonDir e) (hl : e.linkname ≠ []) :
    e.path ∈ linkPaths l := by
  refine List.mem_map.mpr ⟨e, List.mem_filter.mpr ⟨he, ?_⟩, rfl⟩
  simp [hn.eq, hl]

theorem step_dir (seen : List (Path × Path)) (e : StatE) (rest : List StatE) (hd : ¬ NonDir e) :
    hardlinkResetGo seen (e :: rest) = e :: hardlinkResetGo seen rest := by
  rw [hardlinkResetGo, if_pos (Bool.of_not_eq_false hd)]

theorem step_plain (seen : List (Path × Path)) (e : StatE) (rest : List StatE) (hd : NonDir e) (hl : e.linkname = []) :
    hardlinkResetGo seen (e :: rest) = e :: hardlinkResetGo ((e.path, e.path) :: seen) rest := by
  rw [hardlinkResetGo]; simp [hd.eq, hl]

theorem step_promote (seen : List (Path × Path)) (e : StatE) (rest : List StatE) (hd : NonDir e) (hl : e.linkname ≠ [])
    (hf : seen.find? (·.1 = e.linkname) = none) :
    hardlinkResetGo seen (e :: rest)
      = { e with linkname := [] } :: hardlinkResetGo ((e.path, e.path) :: (e.linkname, e.path) :: seen) rest := by
  rw [hardlinkResetGo]; simp [hd.eq, hl, hf]

theorem step_relink (seen : List (Path × Path)) (e : StatE) (rest : List StatE) (k v : Path) (hd : NonDir e)
    (hl : e.linkname ≠ []) (hf : seen.find? (·.1 = e.linkname) = some (k, v)) (hv : v ≠ e.path) :
    hardlinkResetGo seen (e :: rest)
      = { e with linkname := v } :: hardlinkResetGo ((e.path, e.path) :: seen) rest := by
  rw [hardlinkResetGo]; simp [hd.eq, hl, hf, hv]

theorem step_same (seen : List (Path × Path)) (e : StatE) (rest : List StatE) (k : Path) (hd : NonDir e)
    (hl : e.linkname ≠ []) (hf : seen.find? (·.1 = e.linkname) = some (k, e.path)) :
    hardlinkResetGo seen (e :: rest) = e :: hardlinkResetGo ((e.path, e.path) :: seen) rest := by
  rw [hardlinkResetGo]; simp [hd.eq, hl, hf]

theorem step_linkname (seen : List (Path × Path)) (e : StatE) (rest : List StatE) :
    ∃ v seen', hardlinkResetGo seen (e :: rest) = { e with linkname := v } :: hardlinkResetGo seen' rest ∧
      (NonDir e ∨ v = e.linkname) := by
  by_cases hn : NonDir e
  · by_cases hl : e.linkname = []
    · exact ⟨e.linkname, _, step_plain seen e rest hn hl, .inl hn⟩
    · cases hf : seen.find? (·.1 = e.linkname) with
      | none => exact ⟨_, _, step_promote seen e rest hn hl hf, .inl hn⟩
      | some kv =>
        by_cases hv : kv.2 = e.path
        · exact ⟨e.linkname, _, step_same seen e rest kv.1 hn hl (hv ▸ hf), .inl hn⟩
        · exact ⟨_, _, step_relink seen e rest kv.1 kv.2 hn hl hf hv, .inl hn⟩
  · exact ⟨e.linkname, seen, step_dir seen e rest hn, .inr rfl⟩

theorem reset_dirs_unchanged (l : List StatE) : ∀ (seen : List (Path × Path)) (s : StatE),
    s ∈ hardlinkResetGo seen l → s.isDir = true → s ∈ l := by
  induction l with
  | nil => intro _ s h _; rw [hardlinkResetGo] at h; exact h
  | cons e rest ih =>
    intro seen s h hd
    obtain ⟨v, seen', hstep, hv⟩ := step_linkname seen e rest
    rcases List.mem_cons.mp (hstep ▸ h) with rfl | hm
    · rcases hv with hn | rfl
      · exact absurd hd (ne_true_of_eq_false (Bool.or_eq_false_iff.mp hn.eq).1)
      · exact List.mem_cons_self ..
    · exact List.mem_cons_of_mem _ (ih _ s hm hd)

theorem linksClosed_dir (P : List Path) (e : StatE) (rest : List StatE) (hd : ¬ NonDir e) :
    linksClosed P (e :: rest) = linksClosed P rest := by
  rw [linksClosed, if_pos (Bool.of_not_eq_false hd)]

theorem linksClosed_plain (P : List Path) (e : StatE) (rest : List StatE) (hd : NonDir e) (hl : e.linkname = []) :
    linksClosed P (e :: rest) = linksClosed (e.path :: P) rest := by
  rw [linksClosed, if_neg (Bool.eq_false_iff.mp hd.eq), if_neg (not_not_intro hl)]

theorem linksClosed_link (P : List Path) (e : StatE) (rest : List StatE) (hd : NonDir e) (hl : e.linkname ≠ []) :
    linksClosed P (e :: rest) = (P.contains e.linkname && linksClosed P rest) := by
  rw [linksClosed, if_neg (Bool.eq_false_iff.mp hd.eq), if_pos hl]

/-- `P` holds the paths announced so far without link name (what `linksClosed` collects). A record of `seen` points into
`P`, or it is the self-record of an entry announced as a link. -/
theorem reset_closed_go (all : List StatE) : ∀ (rest : List StatE) (seen : List (Path × Path)) (P : List Path),
    (∀ kv ∈ seen, kv.2 ∈ P ∨ (kv.1 = kv.2 ∧ kv.1 ∈ linkPaths all)) →
    (∀ e ∈ rest, NonDir e → e.linkname ≠ [] → e.linkname ∉ linkPaths all ∧ e.path ∈ linkPaths all) →
    (∀ e ∈ rest, e.path ∉ P ∧ e.path ≠ []) →
    (∀ x ∈ P, x ≠ []) →
    (rest.map (·.path)).Nodup →
    linksClosed P (hardlinkResetGo seen rest) = true := by
  intro rest
  induction rest with
  | nil => intro seen P _ _ _ _ _; simp [hardlinkResetGo, linksClosed]
  | cons e rest ih =>
    intro seen P hinv hcan hfresh hPne hnd
    have hnd' := List.nodup_cons.mp hnd
    obtain ⟨hce, hcan'⟩ := List.forall_mem_cons.mp hcan
    obtain ⟨hep, hfresh'⟩ := List.forall_mem_cons.mp hfresh
    have push : ∀ seen', (∀ kv ∈ seen', kv.2 ∈ e.path :: P ∨ (kv.1 = kv.2 ∧ kv.1 ∈ linkPaths all)) →
        linksClosed (e.path :: P) (hardlinkResetGo seen' rest) = true := by
      intro seen' h
      refine ih seen' (e.path :: P) h hcan' (fun f hf => ⟨fun hm => ?_, (hfresh' f hf).2⟩)
        (List.forall_mem_cons.mpr ⟨hep.2, hPne⟩) hnd'.2
      rcases List.mem_cons.mp hm with h | h
      · exact hnd'.1 (List.mem_map.mpr ⟨f, hf, h⟩)
      · exact (hfresh' f hf).1 h
    have hold : ∀ kv ∈ seen, kv.2 ∈ e.path :: P ∨ (kv.1 = kv.2 ∧ kv.1 ∈ linkPaths all) :=
      fun kv hkv => (hinv kv hkv).imp_left (List.mem_cons_of_mem _)
    by_cases hn : NonDir e
    · by_cases hl : e.linkname = []
      · rw [step_plain seen e rest hn hl, linksClosed_plain P e _ hn hl]
        exact push _ (List.forall_mem_cons.mpr ⟨.inl (List.mem_cons_self ..), hold⟩)
      · obtain ⟨hnotlink, hislink⟩ := hce hn hl
        cases hf : seen.find? (·.1 = e.linkname) with
        | none =>
          rw [step_promote seen e rest hn hl hf, linksClosed_plain P { e with linkname := [] } _ hn rfl]
          exact push _ (List.forall_mem_cons.mpr ⟨.inl (List.mem_cons_self ..),
            List.forall_mem_cons.mpr ⟨.inl (List.mem_cons_self ..), hold⟩⟩)
        | some kv =>
          obtain ⟨k, v⟩ := kv
          obtain ⟨hkv, (hk : k = e.linkname)⟩ := find?_key_some (k := Prod.fst) hf
          -- the recorded target is a path announced without link name: the other kind of record is keyed by a link's path
          have hvP : v ∈ P := (hinv (k, v) hkv).resolve_right fun h => hnotlink (hk ▸ h.2)
          have hvne : v ≠ e.path := fun h => hep.1 (h ▸ hvP)
          rw [step_relink seen e rest k v hn hl hf hvne, linksClosed_link P { e with linkname := v } _ hn (hPne v hvP), Bool.and_eq_true]
          exact ⟨List.contains_iff_mem.mpr hvP,
            ih _ P (List.forall_mem_cons.mpr ⟨.inr ⟨rfl, hislink⟩, hinv⟩) hcan' hfresh' hPne hnd'.2⟩
    · rw [step_dir seen e rest hn, linksClosed_dir P e _ hn]
      exact ih seen P hinv hcan' hfresh' hPne hnd'.2

end Fsm.C11
