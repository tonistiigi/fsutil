import FsutilModel.Order
import FsutilModel.Diff
namespace Fsm

/-! The byte-path order `ComparePath` with "is under" (`underB`) satisfies the abstract `PathOrd` interface of the diff proof. -/

def ltB (a b : Path) : Bool := decide (comparePath a b < 0)
def underB (d q : Path) : Bool := (d ++ [sep]).isPrefixOf q

theorem underB_iff (d q : Path) : underB d q = true ↔ ∃ t, q = d ++ sep :: t := by
  simp only [underB, List.isPrefixOf_iff_prefix, List.IsPrefix, List.append_assoc, List.singleton_append]
  exact exists_congr fun _ => eq_comm

theorem underB_iff_comps (d q : Path) : underB d q = true ↔ ∃ x t, comps q = comps d ++ x :: t := by
  rw [underB_iff]
  constructor
  · rintro ⟨t, rfl⟩
    obtain ⟨x, u, hx⟩ := List.exists_cons_of_ne_nil (comps_ne_nil t)
    exact ⟨x, u, by rw [comps_append_sep, hx]⟩
  · rintro ⟨x, t, h⟩
    have hs : ∀ c ∈ x :: t, sep ∉ c := fun c hc => comps_all_sepfree q c (h ▸ List.mem_append_right _ hc)
    exact ⟨joinSep (x :: t), comps_inj (by rw [comps_append_sep, comps_joinSep _ (by simp) hs, h])⟩

theorem underB_irrefl (x : Path) : underB x x = false := by
  rw [← Bool.not_eq_true, underB_iff]
  rintro ⟨t, ht⟩
  simp only [List.self_eq_append_right, reduceCtorEq] at ht

def byteOrd : D.PathOrd Path where
  lt := ltB
  under := underB
  lt_irrefl a := by simpa [ltB] using cmp_irrefl a
  lt_trans a b c h1 h2 := by
    simp only [ltB, decide_eq_true_eq] at *
    exact cmp_trans h1 h2
  lt_total a b := by simpa [ltB] using cmp_total a b
  under_lt d q h := by
    obtain ⟨t, rfl⟩ := (underB_iff d q).mp h
    simpa [ltB] using cmp_parent_lt d t
  under_trans a b c h1 h2 := by
    obtain ⟨t1, ht1⟩ := (underB_iff a b).mp h1
    obtain ⟨t2, ht2⟩ := (underB_iff b c).mp h2
    exact (underB_iff a c).mpr ⟨t1 ++ sep :: t2, by rw [ht2, ht1]; simp⟩
  interval d x y h1 h2 h3 := by
    -- on components, `x` lies between `d` and an extension of `d`
    obtain ⟨z, t, hy⟩ := (underB_iff_comps d y).mp h3
    simp only [ltB, decide_eq_true_eq, cmp_iff_comps] at h1 h2
    obtain ⟨u, hu⟩ := compsLt_between _ _ (z :: t) (.inr h1) (hy ▸ h2)
    cases u with
    | nil => rw [← hu, List.append_nil, compsLt_irrefl] at h1; cases h1
    | cons z' u => exact (underB_iff_comps d x).mpr ⟨z', u, hu.symm⟩

theorem underB_trans {x y z : Path} (h1 : underB x y = true) (h2 : underB y z = true) : underB x z = true :=
  byteOrd.under_trans x y z h1 h2

end Fsm
