import FsutilModel.Basic
import FsutilModel.Model.SenderConc
/-! Liveness of the sender after the stream is torn down (C04): no deadlock, a variant that every step decreases, and the
stuck state of the unrepaired queue push. -/

namespace Fsm.SC

theorem wf_init (n k : Nat) : WF { walker := .walking k, workers := List.replicate n .idle, queue := [], closed := false,
                                    recv := .recv, cancelled := false, torn := false } :=
  ⟨nofun, nofun, fun _ hw he => by cases (List.mem_replicate.1 hw).2.symm.trans he⟩

theorem wf_of_closed {s : St} (hr : s.recv = .exited) (hc : s.closed = true) : WF s :=
  ⟨fun _ => hc, fun _ => hr, fun _ _ _ => .inr hc⟩

theorem setW_eq (ws : List WPc) (i : Nat) (w : WPc) : setW ws i w = ws.set i w := rfl

/-! A move is a structure update of the state, so `{ h with c := … }` keeps the components of `WF` that do not read a field
the move writes and names the others. -/
namespace WF
variable {s : St} (h : WF s)
include h

theorem of_setW {i : Nat} {x : WPc} (hx : x = .exited → s.cancelled = true ∨ s.closed = true) {q : List Nat} :
    WF { s with workers := setW s.workers i x, queue := q } :=
  { h with
    workerExit := fun w hw he => by
      rw [setW_eq] at hw
      exact (List.mem_or_eq_of_mem_set hw).elim (h.workerExit w · he) fun e => hx (e ▸ he) }

theorem cancel {k : KPc} {ws : List WPc} : WF { s with walker := k, workers := ws, cancelled := true } :=
  { h with workerExit := fun _ _ _ => .inl rfl }

theorem recvOn (hr : s.recv ≠ .exited) {r : RPc} (hr' : r ≠ .exited) {q : List Nat} :
    WF { s with recv := r, queue := q } :=
  { h with closedOfExit := fun e => absurd e hr', exitOfClosed := fun hc => absurd (h.exitOfClosed hc) hr }

end WF

theorem wf_step (fixed : Bool) (cap : Nat) (s s' : St) (t : Tid) (env : Env) (hwf : WF s)
    (hs : step fixed cap s t env = some s') : WF s' := by
  revert hs
  fun_cases step fixed cap s t env <;> intro hs <;> cases hs
  -- walker: sees the cancellation; SendMsg fails; done; one more STAT
  next => exact { hwf with }
  next => exact hwf.cancel
  next => exact { hwf with }
  next => exact { hwf with }
  -- idle worker: takes a handle (cancelled / not); the pipeline is closed and empty
  next hc => exact hwf.of_setW fun _ => .inl hc
  next => exact hwf.of_setW (by nofun)
  next hc => exact hwf.of_setW fun _ => .inr hc
  -- sending worker: SendMsg fails; last chunk; one more chunk
  next => exact hwf.cancel
  next => exact hwf.of_setW (by nofun)
  next => exact hwf.of_setW (by nofun)
  -- receive loop in `recv`: cancelled; RecvMsg fails; REQ; FIN; ERR
  next => exact wf_of_closed rfl rfl
  next => exact wf_of_closed rfl rfl
  next hr _ _ _ => exact hwf.recvOn (by simp [hr]) (by nofun)
  next => exact wf_of_closed rfl rfl
  next => exact wf_of_closed rfl rfl
  -- receive loop in `push`: room in the pipeline; full and cancelled (repaired code)
  next hr _ => exact hwf.recvOn (by simp [hr]) (by nofun)
  next => exact wf_of_closed rfl rfl

theorem live_worker_steps (fixed : Bool) (cap : Nat) {s : St} (ht : s.torn = true) (hq : s.queue ≠ [] ∨ s.closed = true)
    {w : WPc} (hm : w ∈ s.workers) (hw : w ≠ .exited) :
    ∃ i, ∀ env, (step fixed cap s (.worker i) env).isSome = true := by
  obtain ⟨i, hi⟩ := List.getElem?_of_mem hm
  refine ⟨i, fun _ => ?_⟩
  cases w with
  | exited => exact absurd rfl hw
  | sending k => simp [step, hi, ht]
  | idle =>
    cases hq' : s.queue with
    | cons h rest => by_cases hc : s.cancelled = true <;> simp [step, hi, hq', hc]
    | nil => simp [step, hi, hq', hq.resolve_left (· hq')]

/-- `step true` is the repaired code. -/
theorem teardown_progress (cap : Nat) (hcap : 0 < cap) (s : St) (hwf : WF s) (hw : s.workers ≠ [])
    (ht : s.torn = true) (hnd : allDone s = false) :
    ∃ t env, (step true cap s t env).isSome = true := by
  cases hk : s.walker with
  | walking k => exact ⟨.walker, .fail, by by_cases hc : s.cancelled = true <;> simp [step, hk, hc, ht]⟩
  | exited =>
    cases hr : s.recv with
    | recv => exact ⟨.recv, .fail, by by_cases hc : s.cancelled = true <;> simp [step, hr, hc, ht]⟩
    | exited =>
      -- only workers are left, and the pipeline is closed
      have ⟨w, hm, hne⟩ : ∃ w ∈ s.workers, w ≠ .exited := by simpa [allDone, hk, hr] using hnd
      have ⟨i, h⟩ := live_worker_steps true cap ht (.inr (hwf.closedOfExit hr)) hm hne
      exact ⟨.worker i, .fail, h .fail⟩
    | push h =>
      by_cases hroom : s.queue.length < cap
      · exact ⟨.recv, .fail, by simp [step, hr, hroom]⟩
      by_cases hc : s.cancelled = true
      · exact ⟨.recv, .fail, by simp [step, hr, hroom, hc]⟩
      -- pipeline full, nothing cancelled, the receive loop alive: no worker can have left
      have ⟨w, hm⟩ := List.exists_mem_of_ne_nil _ hw
      have hcl : ¬ s.closed = true := fun hcl => by simpa [hr] using hwf.exitOfClosed hcl
      have hq : s.queue ≠ [] := fun hq => by simp [hq] at hroom; omega
      have ⟨i, h⟩ := live_worker_steps true cap ht (.inl hq) hm fun he => (hwf.workerExit w hm he).elim hc hcl
      exact ⟨.worker i, .fail, h .fail⟩

/-- F3: with the unconditional channel send the state "all workers gone, pipeline full, receive loop pushing one more
request" is stuck for ever although the stream is torn down; the repaired push leaves it. One worker and `cap = 1` reach it:
REQ 5 is queued and taken by the worker, REQ 7 is queued, the push of REQ 8 blocks, teardown, worker and walker leave. -/
theorem unrepaired_push_can_block_forever :
    let s : St := { walker := .exited, workers := [.exited], queue := [7], closed := false, recv := .push 8,
                    cancelled := true, torn := true }
    allDone s = false ∧ (∀ t env, step false 1 s t env = none) ∧ (∃ t env, (step true 1 s t env).isSome = true) := by
  refine ⟨by decide, ?_, ⟨.recv, .fail, by decide⟩⟩
  intro t env
  cases t with
  | walker => rfl
  | worker i =>
    cases i with
    | zero => rfl
    | succ n => simp [step]
  | recv => rfl

/-- `mu` does not read `cancelled`: `c` lets the moves that cancel and those that do not unify with this -/
theorem mu_setW_lt {s : St} {i : Nat} {w w' : WPc} {q : List Nat} {c : Bool} (hi : s.workers[i]? = some w)
    (h : wW w' + 2 * q.length < wW w + 2 * s.queue.length) :
    mu { s with workers := setW s.workers i w', queue := q, cancelled := c } < mu s := by
  have := sum_map_set wW w' hi
  simp only [mu, setW_eq]; omega

theorem teardown_decreases (fixed : Bool) (cap : Nat) (s s' : St) (t : Tid) (env : Env)
    (ht : s.torn = true) (hs : step fixed cap s t env = some s') : mu s' < mu s := by
  revert hs
  fun_cases step fixed cap s t env <;> intro hs <;> cases hs
  -- walker
  next k hk _ => simp only [mu, kW, hk]; omega
  next k hk _ _ => simp only [mu, kW, hk]; omega
  next hnt _ => exact absurd ht hnt
  next hnt _ => exact absurd ht hnt
  -- idle worker (weight 3): leaves, or takes a handle (weight 2) and weighs 1
  next i hi h rest hq _ => exact mu_setW_lt hi (by simp +arith only [wW, hq, List.length_cons])
  next i hi h rest hq _ => exact mu_setW_lt hi (by simp +arith only [wW, hq, List.length_cons])
  next i hi _ _ => exact mu_setW_lt hi (by simp +arith only [wW])
  -- sending worker
  next i k hi _ => exact mu_setW_lt hi (by simp +arith only [wW])
  next hnt _ => exact absurd ht hnt
  next hnt _ => exact absurd ht hnt
  -- receive loop in `recv`
  next hr _ => simp only [mu, rW, hr]; omega
  next hr _ _ => simp only [mu, rW, hr]; omega
  next hnt _ => exact absurd ht hnt
  next hnt => exact absurd ht hnt
  next hnt => exact absurd ht hnt
  -- receive loop in `push` (weight 4): the handle goes into the pipeline (weight 2), or it leaves
  next h hr _ => simp only [mu, rW, hr, List.length_append, List.length_singleton]; omega
  next h hr _ _ => simp only [mu, rW, hr]; omega

end Fsm.SC
