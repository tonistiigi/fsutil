import FsutilModel.Lex
namespace Fsm

/-! `ComparePath` on byte strings: what decides it, and what it is on joined component lists. -/

theorem comparePath_cons_self (a : Nat) (p q : Path) : comparePath (a :: p) (a :: q) = comparePath p q := by
  simp [comparePath]

theorem cmp_common_prefix (x p q : Path) : comparePath (x ++ p) (x ++ q) = comparePath p q := by
  induction x with
  | nil => rfl
  | cons a x ih => rw [List.cons_append, List.cons_append, comparePath_cons_self, ih]

theorem cmp_parent_lt (q r : Path) : comparePath q (q ++ sep :: r) < 0 := by
  have := cmp_common_prefix q [] (sep :: r)
  simp only [List.append_nil] at this
  rw [this]; simp [comparePath]

theorem comparePath_self (p : Path) : comparePath p p = 0 := by
  simpa [comparePath] using cmp_common_prefix p [] []

theorem comparePath_eq_zero (p q : Path) : comparePath p q = 0 ↔ p = q := by
  induction p generalizing q with
  | nil =>
    cases q with
    | nil => simp [comparePath]
    | cons b q => simp [comparePath]; omega
  | cons a p ih =>
    cases q with
    | nil => simp [comparePath]; omega
    | cons b q =>
      simp only [comparePath]
      by_cases hab : a = b
      · simp [hab, ih]
      · simp only [hab, if_false]
        split <;> simp [hab]

theorem comparePath_nil_left (q : Path) : comparePath [] q < 0 ↔ q ≠ [] := by
  cases q with
  | nil => simp [comparePath]
  | cons b q => simp [comparePath]

theorem comparePath_nil_right (p : Path) : ¬ comparePath p [] < 0 := by
  cases p with
  | nil => simp [comparePath]
  | cons a p => simp [comparePath]; omega

/-- what may follow a component -/
def SepOrEnd (r : Path) : Prop := r = [] ∨ ∃ t, r = sep :: t

/-- end of path < '/' < every other byte: once two separator-free components differ, what follows them cannot matter -/
theorem cmp_end {r : Path} (h : SepOrEnd r) {b : Nat} (hb : b ≠ sep) (q : Path) :
    comparePath r (b :: q) < 0 ∧ ¬ comparePath (b :: q) r < 0 := by
  rcases h with rfl | ⟨t, rfl⟩
  · exact ⟨(comparePath_nil_left _).mpr (List.cons_ne_nil _ _), comparePath_nil_right _⟩
  · simp [comparePath, hb, hb.symm]

theorem cmp_diff_comps (c d r1 r2 : Path) (hc : sep ∉ c) (hd : sep ∉ d) (hne : c ≠ d)
    (h1 : SepOrEnd r1) (h2 : SepOrEnd r2) :
    comparePath (c ++ r1) (d ++ r2) < 0 ↔ strLt c d = true := by
  induction c generalizing d with
  | nil =>
    cases d with
    | nil => exact absurd rfl hne
    | cons b d => simpa [strLt] using (cmp_end h1 (List.ne_of_not_mem_cons hd).symm _).1
  | cons a c ih =>
    have ha : a ≠ sep := (List.ne_of_not_mem_cons hc).symm
    cases d with
    | nil => simpa [strLt] using (cmp_end h2 ha _).2
    | cons b d =>
      by_cases hab : a = b
      · subst hab
        have hne' : c ≠ d := fun e => hne (e ▸ rfl)
        simp [comparePath, strLt, ih d (List.not_mem_of_not_mem_cons hc) (List.not_mem_of_not_mem_cons hd) hne']
      · have hb : b ≠ sep := (List.ne_of_not_mem_cons hd).symm
        simp only [List.cons_append, comparePath, strLt, hab, if_false]
        by_cases hlt : a < b
        · simp [hlt, hb]
        · simp [hlt, ha]

theorem cmp_sepfree (c d : Path) (hc : sep ∉ c) (hd : sep ∉ d) :
    comparePath c d < 0 ↔ strLt c d = true := by
  by_cases h : c = d
  · subst h; simp [comparePath_self, strLt_irrefl]
  · simpa using cmp_diff_comps c d [] [] hc hd h (.inl rfl) (.inl rfl)

theorem cmp_head (c d r1 r2 : Path) (hc : sep ∉ c) (hd : sep ∉ d) (h1 : SepOrEnd r1) (h2 : SepOrEnd r2) :
    comparePath (c ++ r1) (d ++ r2) < 0 ↔ if c = d then comparePath r1 r2 < 0 else strLt c d = true := by
  by_cases h : c = d
  · subst h; simp [cmp_common_prefix]
  · simp [h, cmp_diff_comps c d r1 r2 hc hd h h1 h2]

theorem cmp_joinSep (a b : List Path) (ha : AllSepFree a) (hb : AllSepFree b)
    (hna : a ≠ []) (hnb : b ≠ []) :
    comparePath (joinSep a) (joinSep b) < 0 ↔ compsLt a b = true := by
  induction a generalizing b with
  | nil => exact absurd rfl hna
  | cons c cs ih =>
    obtain ⟨d, ds, rfl⟩ := List.exists_cons_of_ne_nil hnb
    have hc : sep ∉ c := ha c (by simp)
    have hd : sep ∉ d := hb d (by simp)
    rw [compsLt_cons]
    -- where the first components are equal, `cmp_head` leaves `comparePath r₁ r₂ < 0` for what follows them: false if the
    -- second path ends here, true if only the first ends, the induction hypothesis if both go on
    cases cs with
    | nil =>
      cases ds with
      | nil => simpa [joinSep, comparePath_nil_right, compsLt] using cmp_head c d [] [] hc hd (.inl rfl) (.inl rfl)
      | cons f fs =>
        simpa [joinSep, comparePath_nil_left, compsLt] using
          cmp_head c d [] (sep :: joinSep (f :: fs)) hc hd (.inl rfl) (.inr ⟨_, rfl⟩)
    | cons e es =>
      cases ds with
      | nil =>
        simpa [joinSep, compsLt, comparePath_nil_right] using
          cmp_head c d (sep :: joinSep (e :: es)) [] hc hd (.inr ⟨_, rfl⟩) (.inl rfl)
      | cons f fs =>
        rw [joinSep_cons_cons, joinSep_cons_cons, cmp_head c d _ _ hc hd (.inr ⟨_, rfl⟩) (.inr ⟨_, rfl⟩),
          comparePath_cons_self,
          ih (f :: fs) (fun x hx => ha x (by simp [hx])) (fun x hx => hb x (by simp [hx])) (by simp) (by simp)]

/-- `ComparePath` is the lexicographic order on the components, for all byte strings -/
theorem cmp_iff_comps (p q : Path) : comparePath p q < 0 ↔ compsLt (comps p) (comps q) = true := by
  rw [← cmp_joinSep _ _ (comps_all_sepfree p) (comps_all_sepfree q) (comps_ne_nil p) (comps_ne_nil q),
    joinSep_comps, joinSep_comps]

theorem cmp_irrefl (p : Path) : ¬ comparePath p p < 0 := by
  simp [comparePath_self]

theorem cmp_trans {p q r : Path} (h1 : comparePath p q < 0) (h2 : comparePath q r < 0) : comparePath p r < 0 := by
  rw [cmp_iff_comps] at *; exact compsLt_trans h1 h2

theorem cmp_asymm {p q : Path} (h : comparePath p q < 0) : ¬ comparePath q p < 0 :=
  fun h2 => cmp_irrefl p (cmp_trans h h2)

theorem cmp_total (p q : Path) : p = q ∨ comparePath p q < 0 ∨ comparePath q p < 0 := by
  simp only [cmp_iff_comps, compsLt_iff]
  rcases Std.lt_trichotomy (comps p) (comps q) with h | h | h
  · exact .inr (.inl h)
  · exact .inl (comps_inj h)
  · exact .inr (.inr h)

/-! The same order without components: the lexicographic order `<` of core after the bytes are renumbered by `key`, which puts
'/' first. -/

def key (b : Nat) : Nat := if b = sep then 0 else b + 1

theorem key_inj {a b : Nat} (h : key a = key b) : a = b := by
  unfold key at h
  by_cases ha : a = sep
  · by_cases hb : b = sep
    · rw [ha, hb]
    · simp [ha, hb] at h
  · by_cases hb : b = sep
    · simp [ha, hb] at h
    · simpa [ha, hb] using h

theorem key_lt_iff {a b : Nat} (h : a ≠ b) : key a < key b ↔ (b ≠ sep ∧ a < b) ∨ a = sep := by
  unfold key
  by_cases ha : a = sep
  · have hb : b ≠ sep := fun e => h (ha.trans e.symm)
    simp [ha, hb]
  · by_cases hb : b = sep <;> simp [ha, hb]

theorem cmp_lt_iff (p q : Path) : comparePath p q < 0 ↔ p.map key < q.map key := by
  induction p generalizing q with
  | nil => cases q <;> simp [comparePath]
  | cons a p ih =>
    cases q with
    | nil => simp [comparePath_nil_right]
    | cons b q =>
      rw [List.map_cons, List.map_cons, List.cons_lt_cons_iff]
      by_cases hab : a = b
      · subst hab; simp [comparePath, ih]
      · have hk : key a ≠ key b := fun h => hab (key_inj h)
        simp only [comparePath, hab, hk, if_false, false_and, or_false, key_lt_iff hab]
        split <;> simp [*]

def lexLt : List Nat → List Nat → Bool
  | [], [] => false
  | [], _ :: _ => true
  | _ :: _, [] => false
  | a :: p, b :: q => if a = b then lexLt p q else decide (a < b)

theorem lexLt_eq_strLt (p q : List Nat) : lexLt p q = strLt p q := by
  induction p generalizing q with
  | nil => cases q <;> rfl
  | cons a p ih =>
    cases q with
    | nil => rfl
    | cons b q => simp [lexLt, strLt, ih]

theorem cmp_neg_iff_lex (p q : Path) : comparePath p q < 0 ↔ lexLt (p.map key) (q.map key) = true := by
  rw [cmp_lt_iff, lexLt_eq_strLt, strLt_iff]

end Fsm
