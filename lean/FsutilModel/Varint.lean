namespace Fsm.V

/-- protohelpers.EncodeVarint, as a byte list -/
def encVar (n : Nat) : List Nat :=
  if h : n < 128 then [n] else (n % 128 + 128) :: encVar (n / 128)
decreasing_by omega

/-- the generated decode loop: `mul` = 2^shift, `fuel` = remaining iterations before shift ≥ 64.
    Returns (value mod 2^64, rest) or none (overflow / unexpected EOF). -/
def decVar : Nat → Nat → Nat → List Nat → Option (Nat × List Nat)
  | 0, _, _, _ => none                       -- shift ≥ 64 : ErrIntOverflow
  | _+1, _, _, [] => none                    -- io.ErrUnexpectedEOF
  | fuel+1, mul, acc, b :: rest =>
    let acc' := (acc + (b % 128) * mul) % 2^64
    if b < 128 then some (acc', rest) else decVar fuel (mul * 128) acc' rest

theorem encVar_lt (n : Nat) (h : n < 128) : encVar n = [n] := by
  rw [encVar, dif_pos h]

theorem encVar_ge (n : Nat) (h : ¬ n < 128) : encVar n = (n % 128 + 128) :: encVar (n / 128) := by
  rw [encVar, dif_neg h]

theorem fits_div {n f : Nat} (h : ¬ n < 128) (hn : n < 128 ^ (f + 1)) : 0 < f ∧ n / 128 < 128 ^ f :=
  ⟨Nat.pos_of_ne_zero fun h0 => by subst h0; omega, Nat.div_lt_of_lt_mul (Nat.pow_succ' ▸ hn)⟩

/-- The loop invariant: after `j` rounds `mul = 128 ^ j`, the accumulator is `v % mul` and the input left is the code of
`v / mul`. `v / mul < 128 ^ fuel`: the digits left fit the fuel; it allows `fuel = 0` when `v / mul = 0`, so `0 < fuel` too. -/
theorem dec_enc {v : Nat} (hv : v < 2 ^ 64) (rest : List Nat) : ∀ (fuel mul : Nat),
    0 < fuel → v / mul < 128 ^ fuel →
    decVar fuel mul (v % mul) (encVar (v / mul) ++ rest) = some (v, rest) := by
  intro fuel
  induction fuel with
  | zero => intros; omega
  | succ fuel ih =>
    intro mul _ hn
    have hdig : (v % mul + v / mul % 128 * mul) % 2 ^ 64 = v % (mul * 128) := by
      rw [Nat.mul_comm _ mul, ← Nat.mod_mul]
      exact Nat.mod_eq_of_lt (Nat.lt_of_le_of_lt (Nat.mod_le ..) hv)
    by_cases h : v / mul < 128
    · rw [encVar_lt _ h, List.singleton_append, decVar, if_pos h, hdig, Nat.mod_mul, Nat.mod_eq_of_lt h, Nat.mod_add_div]
    · have hb : (v / mul % 128 + 128) % 128 = v / mul % 128 := by rw [Nat.add_mod_right, Nat.mod_mod]
      obtain ⟨hf, hq⟩ := fits_div h hn
      have hrec := ih (mul * 128) hf
      rw [← Nat.div_div_eq_div_mul] at hrec
      rw [encVar_ge _ h, List.cons_append, decVar, if_neg (by omega), hb, hdig, hrec hq]

/-- uint64 varints round-trip: 10 iterations are enough -/
theorem varint_roundtrip (n : Nat) (hn : n < 2^64) (rest : List Nat) :
    decVar 10 1 0 (encVar n ++ rest) = some (n, rest) := by
  have h := dec_enc hn rest 10 1 (by decide)
  rw [Nat.div_one, Nat.mod_one] at h
  exact h (Nat.lt_of_lt_of_le hn (by decide))

end Fsm.V
