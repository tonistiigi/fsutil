import FsutilModel.WireVar
import FsutilModel.WireLoop
/-! Round trip of the transcribed `types.Stat` codec. The encoder's output is a concatenation of segments, and a message
of any type is decoded segment by segment (`Reads`). -/
namespace Fsm.W

section
variable {M : Type} (field : Bytes → Nat → Nat → Nat → Nat → M → Except Err (Nat × M)) (d : Bytes)

/-- From `i` with partial value `m` the loop returns `R`, whatever fuel outlasts the buffer (so no segment counts rounds).
`Reads` quantifies over `R`, continuation style: segments compose as functions do, decoder errors are never spoken of. -/
def Dec (i : Nat) (m : M) (R : Except Err M) : Prop :=
  ∀ fuel, d.size < i + fuel → msgLoop field d d.size fuel i m = R

/-- the segment `bs`, wherever it sits in the buffer, takes the loop from partial value `m` to `m'` -/
def Reads (bs : List Nat) (m m' : M) : Prop :=
  ∀ i R, At d i bs → i + bs.length ≤ d.size → Dec field d (i + bs.length) m' R → Dec field d i m R

variable {field d}

theorem Dec.done (m : M) : Dec field d d.size m (.ok m) := by
  intro fuel hf
  obtain ⟨fuel, rfl⟩ := Nat.exists_eq_add_one.mpr (Nat.pos_of_lt_add_right hf)
  rw [msgLoop, if_pos (Nat.le_refl _)]

theorem Reads.nil (m : M) : Reads field d [] m m := fun _ _ _ _ h => h

theorem Reads.append {a b : List Nat} {m m₁ m₂ : M} (h1 : Reads field d a m m₁) (h2 : Reads field d b m₁ m₂) :
    Reads field d (a ++ b) m m₂ := by
  intro i R hat hl h
  obtain ⟨ha, hb⟩ := At.append.mp hat
  rw [List.length_append, ← Nat.add_assoc] at hl h
  exact h1 i R ha (by omega) (h2 _ R hb hl h)

theorem Reads.congr {bs : List Nat} {m m' m'' : M} (h : Reads field d bs m m') (e : m' = m'') : Reads field d bs m m'' :=
  e ▸ h

theorem Reads.tagged {t : Nat} {body : List Nat} {m m' : M} (ht : t < 128)
    (hf : ∀ i, At d (i + 1) body → i + 1 + body.length ≤ d.size → field d d.size i (i + 1) t m = .ok (i + 1 + body.length, m')) :
    Reads field d (t :: body) m m' := by
  intro i R hat hl h fuel hfuel
  obtain ⟨hd, hb⟩ := At.cons.mp hat
  rw [List.length_cons, Nat.add_comm _ 1, ← Nat.add_assoc] at hl h
  obtain ⟨fuel, rfl⟩ : ∃ k, fuel = k + 1 := ⟨fuel - 1, by omega⟩
  rw [msgLoop, if_neg (by omega), readTag ht hd (by omega)]
  simp only [ok_bind, hf i hb hl]
  exact h fuel (by omega)

theorem Reads.decode {bs : List Nat} {m m' : M} (h : Reads field bs.toArray bs m m') :
    msgLoop field bs.toArray bs.toArray.size (bs.toArray.size + 1) 0 m = .ok m' :=
  h 0 _ (At.toArray bs) (by simp) (by rw [Nat.zero_add]; exact Dec.done m') _ (by omega)

theorem varintFieldG_enc {v i : Nat} (k : Nat → M) (hv : v < two64) (hat : At d i (encVar v))
    (hl : i + (encVar v).length ≤ d.size) : varintFieldG d d.size i 0 k = .ok (i + (encVar v).length, k v) := by
  rw [varintFieldG, readVar_enc hv hat hl]
  rfl

theorem bytesFieldG_enc {bs : List Nat} {i : Nat} (k : List Nat → M) (hl63 : d.size < two63)
    (hat : At d i (encVar bs.length ++ bs)) (hl : i + (encVar bs.length ++ bs).length ≤ d.size) :
    bytesFieldG d d.size i 2 k = .ok (i + (encVar bs.length ++ bs).length, k bs) := by
  obtain ⟨h1, h2⟩ := payload_enc hl63 hat hl
  rw [bytesFieldG, h1]
  simp only [ok_bind, h2]
  rfl

/-- the encoder leaves the field out at the zero value, which the partial value still holds (`h0`) -/
theorem Reads.varField {t v : Nat} {k : M → Nat → M} {m : M} (ht : t < 128) (hv : v < two64)
    (hf : ∀ pre i1, field d d.size pre i1 t m = varintFieldG d d.size i1 0 (k m)) (h0 : k m 0 = m) :
    Reads field d (encVarField t v) m (k m v) := by
  rw [encVarField]
  split
  · next h => rw [h, h0]; exact .nil m
  · exact .tagged ht fun i hat hl => (hf ..).trans (varintFieldG_enc _ hv hat hl)

/-- `h0` is asked for the empty value only, so a field that is never written empty (`Packet.data`, whose decoded value is
`some _`) is covered -/
theorem Reads.bytesField {t : Nat} {bs : List Nat} {k : M → List Nat → M} {m : M} (ht : t < 128) (hl63 : d.size < two63)
    (hf : ∀ pre i1, field d d.size pre i1 t m = bytesFieldG d d.size i1 2 (k m)) (h0 : bs = [] → k m [] = m) :
    Reads field d (encBytesField t bs) m (k m bs) := by
  rw [encBytesField]
  split
  · next h =>
    obtain rfl := List.isEmpty_iff.mp h
    rw [h0 rfl]
    exact .nil m
  · exact .tagged ht fun i hat hl => (hf ..).trans (bytesFieldG_enc _ hl63 hat hl)

end

def xbody (kv : List Nat × List Nat) : List Nat :=
  (10 :: (encVar kv.1.length ++ kv.1)) ++ (18 :: (encVar kv.2.length ++ kv.2))

theorem encXattr_eq (kv : List Nat × List Nat) : encXattr kv = 82 :: (encVar (xbody kv).length ++ xbody kv) := by
  simp [encXattr, xbody]

section
variable {d : Bytes} (hl63 : d.size < two63)
include hl63

theorem xattrEntryLoop_key {post fuel i : Nat} {ks : List Nat} (k v : List Nat) (hat : At d i (10 :: (encVar ks.length ++ ks)))
    (hl : i + 1 + (encVar ks.length ++ ks).length ≤ post) (hp : post ≤ d.size) :
    xattrEntryLoop d d.size post (fuel + 1) i k v = xattrEntryLoop d d.size post fuel (i + 1 + (encVar ks.length ++ ks).length) ks v := by
  obtain ⟨hd, hb⟩ := At.cons.mp hat
  obtain ⟨h1, h2⟩ := payload_enc hl63 hb (by omega)
  rw [xattrEntryLoop, if_neg (by omega), readTag (by decide) hd (by omega)]
  simp only [ok_bind, h1, h2]
  exact if_pos (by decide)

theorem xattrEntryLoop_val {post fuel i : Nat} {vs : List Nat} (k v : List Nat) (hat : At d i (18 :: (encVar vs.length ++ vs)))
    (hl : i + 1 + (encVar vs.length ++ vs).length ≤ post) (hp : post ≤ d.size) :
    xattrEntryLoop d d.size post (fuel + 1) i k v = xattrEntryLoop d d.size post fuel (i + 1 + (encVar vs.length ++ vs).length) k vs := by
  obtain ⟨hd, hb⟩ := At.cons.mp hat
  obtain ⟨h1, h2⟩ := payload_enc hl63 hb (by omega)
  rw [xattrEntryLoop, if_neg (by omega), readTag (by decide) hd (by omega)]
  simp only [ok_bind, h1, h2]
  exact (if_neg (by decide)).trans (if_pos (by decide))

omit hl63 in
theorem xattrEntryLoop_done {post fuel i : Nat} (k v : List Nat) (h : post ≤ i) :
    xattrEntryLoop d d.size post fuel i k v = .ok (k, v) := by
  cases fuel with
  | zero => rfl
  | succ fuel => rw [xattrEntryLoop, if_pos h]

theorem xattrEntryLoop_enc {a fuel : Nat} (kv : List Nat × List Nat) (hat : At d a (xbody kv)) (hl : a + (xbody kv).length ≤ d.size)
    (hf : 3 ≤ fuel) : xattrEntryLoop d d.size (a + (xbody kv).length) fuel a [] [] = .ok kv := by
  obtain ⟨fuel, rfl⟩ := Nat.exists_eq_add_of_le' hf
  obtain ⟨hk, hv⟩ := At.append.mp hat
  rw [List.length_cons, Nat.add_comm _ 1, ← Nat.add_assoc] at hv
  have e : a + (xbody kv).length = a + 1 + (encVar kv.1.length ++ kv.1).length + 1 + (encVar kv.2.length ++ kv.2).length := by
    simp only [xbody, List.length_append, List.length_cons]; omega
  rw [e, xattrEntryLoop_key hl63 _ _ hk (by omega) (by omega), xattrEntryLoop_val hl63 _ _ hv (by omega) (by omega),
    xattrEntryLoop_done _ _ (Nat.le_refl _)]

theorem xattrField_enc {i : Nat} (kv : List Nat × List Nat) (m : PStat) (hat : At d i (encVar (xbody kv).length ++ xbody kv))
    (hl : i + (encVar (xbody kv).length ++ xbody kv).length ≤ d.size) :
    xattrField d d.size i 2 m =
      .ok (i + (encVar (xbody kv).length ++ xbody kv).length, { m with xattrs := mapSet m.xattrs kv.1 kv.2 }) := by
  have h1 := (payload_enc hl63 hat hl).1
  rw [List.length_append, ← Nat.add_assoc] at h1 hl ⊢
  rw [xattrField, h1]
  simp only [ok_bind, Nat.add_sub_cancel_left,
    xattrEntryLoop_enc hl63 kv (At.append.mp hat).2 hl (fuel := (xbody kv).length + 2) (by simp [xbody])]
  rfl

theorem reads_xattrs (xs : List (List Nat × List Nat)) (m : PStat) :
    Reads statField d (xs.flatMap encXattr) m
      { m with xattrs := xs.foldl (fun acc kv => mapSet acc kv.1 kv.2) m.xattrs } := by
  induction xs generalizing m with
  | nil => exact .nil m
  | cons kv xs ih =>
    rw [List.flatMap_cons, encXattr_eq]
    exact .append (.tagged (by decide) fun i hat hl =>
      show xattrField d d.size (i + 1) 2 m = _ from xattrField_enc hl63 kv m hat hl) (ih _)

end

theorem foldl_mapSet (xs acc : List (List Nat × List Nat)) (h : (acc ++ xs).Pairwise (fun a b => a.1 ≠ b.1)) :
    xs.foldl (fun acc kv => mapSet acc kv.1 kv.2) acc = acc ++ xs := by
  induction xs generalizing acc with
  | nil => simp
  | cons kv xs ih =>
    have hfresh : acc.any (·.1 = kv.1) = false :=
      List.any_eq_false.mpr fun e he => mt of_decide_eq_true ((List.pairwise_append.mp h).2.2 e he kv (List.mem_cons_self ..))
    rw [List.foldl_cons, mapSet, hfresh, if_neg Bool.false_ne_true, ih _ (by simpa using h), List.append_assoc]
    rfl

/-- what the encoder's input must satisfy: field ranges of the Go types, map keys distinct, no unknown fields -/
structure PStat.WF (s : PStat) : Prop where
  mode : s.mode < two32
  uid : s.uid < two32
  gid : s.gid < two32
  size : -(two63 : Int) ≤ s.size ∧ s.size < two63
  mtime : -(two63 : Int) ≤ s.mtime ∧ s.mtime < two63
  devmajor : -(two63 : Int) ≤ s.devmajor ∧ s.devmajor < two63
  devminor : -(two63 : Int) ≤ s.devminor ∧ s.devminor < two63
  keys : s.xattrs.Pairwise (fun a b => a.1 ≠ b.1)
  unknown : s.unknown = []

theorem reads_marshalStat {d : Bytes} (hl63 : d.size < two63) {s : PStat} (hwf : s.WF) :
    Reads statField d (marshalStat s) {} s := by
  rw [marshalStat, hwf.unknown, List.append_nil]
  simp only [List.append_assoc]
  -- per field: `statField` at that tag is the scalar or bytes decoder with the setter `k` (the dispatch is evaluated: `rfl`)
  refine .append (.bytesField (k := fun m b => { m with path := b }) (by decide) hl63 (fun _ _ => rfl) fun _ => rfl) ?_
  refine .append (.varField (k := fun m v => { m with mode := v % two32 }) (by decide) (lt64_of_lt32 hwf.mode) (fun _ _ => rfl) rfl) ?_
  refine .append (.varField (k := fun m v => { m with uid := v % two32 }) (by decide) (lt64_of_lt32 hwf.uid) (fun _ _ => rfl) rfl) ?_
  refine .append (.varField (k := fun m v => { m with gid := v % two32 }) (by decide) (lt64_of_lt32 hwf.gid) (fun _ _ => rfl) rfl) ?_
  refine .append (.varField (k := fun m v => { m with size := toInt64 v }) (by decide) (ofInt64_lt _) (fun _ _ => rfl) rfl) ?_
  refine .append (.varField (k := fun m v => { m with mtime := toInt64 v }) (by decide) (ofInt64_lt _) (fun _ _ => rfl) rfl) ?_
  refine .append (.bytesField (k := fun m b => { m with linkname := b }) (by decide) hl63 (fun _ _ => rfl) fun _ => rfl) ?_
  refine .append (.varField (k := fun m v => { m with devmajor := toInt64 v }) (by decide) (ofInt64_lt _) (fun _ _ => rfl) rfl) ?_
  refine .append (.varField (k := fun m v => { m with devminor := toInt64 v }) (by decide) (ofInt64_lt _) (fun _ _ => rfl) rfl) ?_
  refine (reads_xattrs hl63 s.xattrs _).congr ?_
  simp only [Nat.mod_eq_of_lt hwf.mode, Nat.mod_eq_of_lt hwf.uid, Nat.mod_eq_of_lt hwf.gid, toInt64_ofInt64 hwf.size,
    toInt64_ofInt64 hwf.mtime, toInt64_ofInt64 hwf.devmajor, toInt64_ofInt64 hwf.devminor, foldl_mapSet s.xattrs [] hwf.keys,
    List.nil_append]
  cases s
  cases hwf.unknown
  rfl

theorem stat_roundtrip (s : PStat) (hwf : s.WF) (hlen : (marshalStat s).length < two63) :
    unmarshalStat (marshalStat s) = .ok s := by
  rw [unmarshalStat, unmarshalStatLoop_eq]
  exact (reads_marshalStat (by simpa using hlen) hwf).decode

end Fsm.W
