import FsutilModel.Basic
import FsutilModel.DiffLoop
/-! What the merge loop emits: the adds and modifies in one list equation (`filter_diff`), the other statements each a case
check on the loop. -/
namespace Fsm.D

section
variable {P I : Type} [DecidableEq I] {fc : Bool} {u e : Ent P I} {o : Option (Ent P I)}

/-- what the loop reports for the new entry `u` when the old listing has `o` at the path of `u` -/
def report (fc : Bool) (u : Ent P I) : Option (Ent P I) → Option (Ev P I)
  | none => some (.add u)
  | some l => if fc = true ∨ same l u = false then some (.modify u) else none

theorem report_eq_add : report fc u o = some (.add e) ↔ o = none ∧ u = e := by
  cases o <;> simp [report]

theorem report_eq_modify :
    report fc u o = some (.modify e) ↔ ∃ l, o = some l ∧ (fc = true ∨ same l u = false) ∧ u = e := by
  cases o <;> simp [report]

end

variable {P : Type} [DecidableEq P] {I : Type} [DecidableEq I]

def evPath : Ev P I → P
  | .add e => e.path
  | .modify e => e.path
  | .delete p => p

variable {O : PathOrd P} {fc : Bool} {n : Nat} {ls us : List (Ent P I)} {rm : Option P}

theorem filter_diff (hl : Sorted O ls) (hu : Sorted O us) (hn : ls.length + us.length < n) :
    (diff O fc n ls us rm).filter (fun ev => !ev matches .delete _) =
      us.filterMap fun u => report fc u (toMap ls u.path) := by
  have popL : ∀ {p} {l : Ent P I} {ls us}, Before O p ls us → l.path = p →
      (us.filterMap fun u => report fc u (toMap (l :: ls) u.path)) = us.filterMap fun u => report fc u (toMap ls u.path) :=
    fun hB hp => filterMap_congr fun u hu => by rw [toMap_cons, if_neg (hp ▸ hB.ne_right hu)]
  have head : ∀ {l u : Ent P I} {ls}, l.path = u.path → toMap (l :: ls) u.path = some l :=
    fun hp => (toMap_cons ..).trans (if_pos hp)
  refine diff_induct_sorted O fc
    (motive := fun ls us _ r => r.filter _ = us.filterMap fun u => report fc u (toMap ls u.path))
    ?done ?skip ?del ?add ?keep ?modify n ls us rm hl hu (.inl hn)
  case done => exact rfl
  case skip => exact fun _ hB _ ih => ih.trans (popL hB rfl).symm
  case del => exact fun _ hB _ ih => ih.trans (popL hB rfl).symm
  case add =>
    refine fun u hB ih => (congrArg _ ih).trans (List.filterMap_cons_some ?_).symm
    -- `u` is below all remaining old entries, so none of them has its path
    exact congrArg (report fc u) (toMap_eq_none.mpr fun l hl => (hB.ne_left hl).symm)
  case keep =>
    refine fun l u hp hB hfc hs ih => (ih.trans (popL hB hp).symm).trans (List.filterMap_cons_none ?_).symm
    exact (congrArg (report fc u) (head hp)).trans (if_neg (by simp [hfc, hs]))
  case modify =>
    refine fun l u hp hB hs _ ih =>
      (congrArg _ (ih.trans (popL hB hp).symm)).trans (List.filterMap_cons_some ?_).symm
    exact (congrArg (report fc u) (head hp)).trans (if_pos hs)

theorem mem_diff_iff (hl : Sorted O ls) (hu : Sorted O us) (hn : ls.length + us.length < n) {ev : Ev P I}
    (h : (!ev matches .delete _) = true) :
    ev ∈ diff O fc n ls us rm ↔ ∃ u ∈ us, report fc u (toMap ls u.path) = some ev := by
  rw [← List.mem_filterMap, ← filter_diff hl hu hn, List.mem_filter, and_iff_left h]

theorem add_mem_iff (hl : Sorted O ls) (hu : Sorted O us) (hn : ls.length + us.length < n) (e : Ent P I) :
    Ev.add e ∈ diff O fc n ls us rm ↔ (e ∈ us ∧ ∀ l ∈ ls, l.path ≠ e.path) := by
  rw [mem_diff_iff hl hu hn rfl]
  constructor
  · rintro ⟨u, hu, h⟩
    obtain ⟨ho, rfl⟩ := report_eq_add.mp h
    exact ⟨hu, toMap_eq_none.mp ho⟩
  · exact fun ⟨he, h⟩ => ⟨e, he, congrArg _ (toMap_eq_none.mpr h)⟩

theorem modify_mem_iff (hl : Sorted O ls) (hu : Sorted O us) (hn : ls.length + us.length < n) (e : Ent P I) :
    Ev.modify e ∈ diff O fc n ls us rm ↔
      (e ∈ us ∧ ∃ l ∈ ls, l.path = e.path ∧ (fc = true ∨ same l e = false)) := by
  rw [mem_diff_iff hl hu hn rfl]
  constructor
  · rintro ⟨u, hu, h⟩
    obtain ⟨l, ho, hc, rfl⟩ := report_eq_modify.mp h
    have ⟨hm, hp⟩ := toMap_some_mem ho
    exact ⟨hu, l, hm, hp, hc⟩
  · exact fun ⟨he, l, hm, hp, hc⟩ => ⟨e, he, report_eq_modify.mpr ⟨l, hp ▸ toMap_mem hl hm, hc, rfl⟩⟩

/-- Not an iff with "and no directory above `p` is deleted": a delete outside `rm` clears `rm` instead of setting it to the
directory just deleted, so `a/, a/x, b/, b/y` against the empty listing gives delete `a`, `b`, `b/y`. -/
theorem delete_mem_only (hl : Sorted O ls) (hu : Sorted O us) (p : P) :
    Ev.delete p ∈ diff O fc n ls us rm → (∃ l ∈ ls, l.path = p) ∧ ∀ u ∈ us, u.path ≠ p := by
  -- an entry of `us` that is consumed lies below all remaining entries of `ls`, so none of them has its path
  have popU : ∀ {u : Ent P I} {ls us : List (Ent P I)}, Before O u.path ls us →
      ((∃ x ∈ ls, x.path = p) ∧ ∀ y ∈ us, y.path ≠ p) → ∀ y ∈ u :: us, y.path ≠ p := by
    rintro u ls us hB ⟨⟨x, hx, rfl⟩, hne⟩
    exact List.forall_mem_cons.mpr ⟨hB.ne_left hx, hne⟩
  have tail : ∀ {l : Ent P I} {ls : List (Ent P I)}, (∃ x ∈ ls, x.path = p) → ∃ x ∈ l :: ls, x.path = p :=
    fun ⟨x, hx, hp⟩ => ⟨x, .tail _ hx, hp⟩
  have here : ∀ {l : Ent P I} {ls us : List (Ent P I)}, Before O l.path ls us →
      (∃ x ∈ l :: ls, x.path = l.path) ∧ ∀ y ∈ us, y.path ≠ l.path :=
    fun hB => ⟨⟨_, .head _, rfl⟩, fun y hy => (hB.ne_right hy).symm⟩
  refine diff_induct_sorted O fc (motive := fun ls us _ r =>
      Ev.delete p ∈ r → (∃ l ∈ ls, l.path = p) ∧ ∀ u ∈ us, u.path ≠ p)
    ?done ?skip ?del ?add ?keep ?modify n ls us rm hl hu (.inr fun _ _ _ => nofun)
  case done => exact nofun
  case skip => exact fun _ _ _ ih h => ⟨tail (ih h).1, (ih h).2⟩
  case del =>
    refine fun _ hB _ ih h => ?_
    rcases List.mem_cons.mp h with h | h
    · cases h; exact here hB
    · exact ⟨tail (ih h).1, (ih h).2⟩
  case add =>
    refine fun _ hB ih h => ?_
    have h := ih (List.mem_of_ne_of_mem (by nofun) h)
    exact ⟨h.1, popU hB h⟩
  case keep => exact fun _ _ _ hB _ _ ih h => ⟨tail (ih h).1, popU hB (ih h)⟩
  case modify =>
    refine fun _ _ _ hB _ _ ih h => ?_
    have h := ih (List.mem_of_ne_of_mem (by nofun) h)
    exact ⟨tail h.1, popU hB h⟩

theorem only_adds_of_nil : ∀ ev ∈ diff O fc n [] us rm, ∃ e, ev = .add e := by
  refine diff_induct O fc (motive := fun _ ls _ _ r => ls = [] → ∀ ev ∈ r, ∃ e, ev = .add e)
    ?stop ?done ?skip ?del ?add ?keep ?modify n [] us rm rfl
  case stop => exact fun _ => List.forall_mem_nil _
  case done => exact fun _ => List.forall_mem_nil _
  case skip => exact fun _ _ _ _ h => nomatch h
  case del => exact fun _ _ _ _ h => nomatch h
  case add => exact fun _ _ ih h => List.forall_mem_cons.mpr ⟨⟨_, rfl⟩, ih h⟩
  case keep => exact fun _ _ _ _ _ _ h => nomatch h
  case modify => exact fun _ _ _ _ _ _ h => nomatch h

/-- a re-sync of an unchanged tree emits nothing (any sufficient fuel, any rmdir state) -/
theorem resync_is_silent (O : PathOrd P) : ∀ (L : List (Ent P I)) (n : Nat) (rm : Option P),
    L.length + L.length < n → diff O false n L L rm = [] := by
  intro L n rm
  -- of two equal lists neither head is below the other, and the heads are the same entry
  have irr : ∀ {x : Ent P I} {xs : List (Ent P I)}, ¬ ∀ y ∈ (x :: xs).head?, O.lt x.path y.path = true :=
    fun h => O.lt_ne (h _ rfl) rfl
  refine diff_induct O false (motive := fun n ls us _ r => ls = us → ls.length + us.length < n → r = [])
    ?stop ?done ?skip ?del ?add ?keep ?modify n L L rm rfl
  case stop => exact fun _ h => absurd h (Nat.not_lt_zero _)
  case done => exact fun _ _ => rfl
  case skip => exact fun _ hh _ _ e => absurd (e ▸ hh) irr
  case del => exact fun _ hh _ _ e => absurd (e ▸ hh) irr
  case add => exact fun _ hh _ e => absurd (e ▸ hh) irr
  case keep => exact fun _ _ _ _ _ ih e h => ih (List.cons.inj e).2 (by simp only [List.length_cons] at h; omega)
  case modify =>
    refine fun l u _ hne _ _ e _ => ?_
    cases (List.cons.inj e).1
    exact hne.elim nofun fun h => absurd (same_self l) (ne_true_of_eq_false h)

/-- the loop reports paths of heads only -/
theorem forall_evPath_diff (O : PathOrd P) (fc : Bool) {Q : P → Prop} :
    ∀ (n : Nat) (ls us : List (Ent P I)) (rm : Option P),
      (∀ x ∈ ls, Q x.path) → (∀ x ∈ us, Q x.path) → ∀ ev ∈ diff O fc n ls us rm, Q (evPath ev) := by
  refine diff_induct O fc
    (motive := fun _ ls us _ r => (∀ x ∈ ls, Q x.path) → (∀ x ∈ us, Q x.path) → ∀ ev ∈ r, Q (evPath ev))
    ?stop ?done ?skip ?del ?add ?keep ?modify
  case stop => exact fun _ _ => List.forall_mem_nil _
  case done => exact fun _ _ => List.forall_mem_nil _
  case skip => exact fun _ _ _ ih hl hu => ih (List.forall_mem_cons.mp hl).2 hu
  case del => exact fun _ _ _ ih hl hu =>
    have ⟨h, hl⟩ := List.forall_mem_cons.mp hl
    List.forall_mem_cons.mpr ⟨h, ih hl hu⟩
  case add => exact fun _ _ ih hl hu =>
    have ⟨h, hu⟩ := List.forall_mem_cons.mp hu
    List.forall_mem_cons.mpr ⟨h, ih hl hu⟩
  case keep => exact fun _ _ _ _ _ ih hl hu => ih (List.forall_mem_cons.mp hl).2 (List.forall_mem_cons.mp hu).2
  case modify => exact fun _ _ _ _ _ ih hl hu =>
    have ⟨h, hu⟩ := List.forall_mem_cons.mp hu
    List.forall_mem_cons.mpr ⟨h, ih (List.forall_mem_cons.mp hl).2 hu⟩

theorem evPath_mem (O : PathOrd P) (fc : Bool) : ∀ (n : Nat) (ls us : List (Ent P I)) (rm : Option P) (ev : Ev P I),
    ev ∈ diff O fc n ls us rm → evPath ev ∈ ls.map (·.path) ++ us.map (·.path) :=
  fun n ls us rm => forall_evPath_diff O fc n ls us rm
    (fun _ h => List.mem_append_left _ (List.mem_map_of_mem h))
    (fun _ h => List.mem_append_right _ (List.mem_map_of_mem h))

theorem diff_ascending (O : PathOrd P) (fc : Bool) : ∀ (n : Nat) (ls us : List (Ent P I)) (rm : Option P),
    Sorted O ls → Sorted O us → ((diff O fc n ls us rm).map evPath).Pairwise (fun a b => O.lt a b = true) := by
  intro n ls us rm hl hu
  -- the path reported in a turn is below everything that remains, hence below everything reported later
  have later : ∀ {n} {ls us : List (Ent P I)} {rm p}, Before O p ls us →
      ∀ q ∈ (diff O fc n ls us rm).map evPath, O.lt p q = true :=
    fun {_ _ _ _ p} hB =>
      List.forall_mem_map.mpr (forall_evPath_diff O fc (Q := (O.lt p · = true)) _ _ _ _ hB.1 hB.2)
  refine diff_induct_sorted O fc (motive := fun _ _ _ r => (r.map evPath).Pairwise (fun a b => O.lt a b = true))
    ?done ?skip ?del ?add ?keep ?modify n ls us rm hl hu (.inr fun _ _ _ => .nil)
  case done => exact .nil
  case skip => exact fun _ _ _ ih => ih
  case del => exact fun _ hB _ ih => .cons (later hB) ih
  case add => exact fun _ hB ih => .cons (later hB) ih
  case keep => exact fun _ _ _ _ _ _ ih => ih
  case modify => exact fun _ _ _ hB _ _ ih => .cons (later hB) ih

end Fsm.D
