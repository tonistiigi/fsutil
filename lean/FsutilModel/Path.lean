/-! Paths as byte strings (`List Nat`), their components, and `ComparePath`.
The trap: the root is the empty path, and as a list of components it is written `[]` too (`joinSep [] = []`), but
`comps [] = [[]]`. So lemmas that reach `joinSep cs` through `comps` ask for `cs ≠ []`, and where the root is among the lists
meant it is treated apart (`cmp_joinSep_plain`, `joinSep_inj`). -/
namespace Fsm

abbrev Path := List Nat
abbrev sep : Nat := 47

def PlainC (c : Path) : Prop := c ≠ [] ∧ sep ∉ c

def joinSep : List Path → Path
  | [] => []
  | [c] => c
  | c :: d :: cs => c ++ sep :: joinSep (d :: cs)

def comps : Path → List Path
  | [] => [[]]
  | b :: rest =>
    if b = sep then [] :: comps rest
    else match comps rest with
      | [] => [[b]]
      | c :: cs => (b :: c) :: cs

/-- validator.go:ComparePath, verbatim -/
def comparePath : Path → Path → Int
  | [], [] => 0
  | [], q => - (q.length : Int)
  | p, [] => (p.length : Int)
  | a :: p, b :: q =>
    if a = b then comparePath p q
    else if (b ≠ sep ∧ a < b) ∨ a = sep then -1 else 1

/-- Go string `<` -/
def strLt : Path → Path → Bool
  | [], [] => false
  | [], _ :: _ => true
  | _ :: _, [] => false
  | a :: p, b :: q => if a = b then strLt p q else decide (a < b)

def compsLt : List Path → List Path → Bool
  | [], [] => false
  | [], _ :: _ => true
  | _ :: _, [] => false
  | c :: cs, d :: ds => if c = d then compsLt cs ds else strLt c d

def AllSepFree (cs : List Path) : Prop := ∀ c ∈ cs, sep ∉ c

theorem comps_sepfree (c : Path) (h : sep ∉ c) : comps c = [c] := by
  induction c with
  | nil => simp [comps]
  | cons b rest ih =>
    simp [comps, (List.ne_of_not_mem_cons h).symm, ih (List.not_mem_of_not_mem_cons h)]

theorem comps_ne_nil (p : Path) : comps p ≠ [] := by
  cases p with
  | nil => simp [comps]
  | cons b rest =>
    rw [comps]
    split
    · simp
    · split <;> simp

theorem comps_append_sep (d t : Path) : comps (d ++ sep :: t) = comps d ++ comps t := by
  induction d with
  | nil => simp [comps]
  | cons b d ih =>
    by_cases hb : b = sep
    · simp [comps, hb, ih]
    · obtain ⟨c, cs, hc⟩ := List.exists_cons_of_ne_nil (comps_ne_nil d)
      simp [comps, hb, ih, hc]

theorem comps_snoc_sep (p : Path) : comps (p ++ [sep]) = comps p ++ [[]] :=
  comps_append_sep p []

theorem sep_induction {P : Path → Prop} (single : ∀ c, sep ∉ c → P c)
    (cons : ∀ c rest, sep ∉ c → P rest → P (c ++ sep :: rest)) (p : Path) : P p := by
  suffices ∀ c, sep ∉ c → P (c ++ p) from this [] (by simp)
  induction p with
  | nil => intro c hc; simpa using single c hc
  | cons b rest ih =>
    intro c hc
    by_cases hb : b = sep
    · subst hb; exact cons c rest hc (ih [] (by simp))
    · simpa using ih (c ++ [b]) (by simp [hc, Ne.symm hb])

theorem comps_all_sepfree (p : Path) : AllSepFree (comps p) := by
  induction p using sep_induction with
  | single c hc => simpa [AllSepFree, comps_sepfree c hc] using hc
  | cons c rest hc ih =>
    rw [comps_append_sep, comps_sepfree c hc]
    exact List.forall_mem_cons.mpr ⟨hc, ih⟩

theorem joinSep_cons_cons (c d : Path) (ds : List Path) :
    joinSep (c :: d :: ds) = c ++ sep :: joinSep (d :: ds) := rfl

theorem joinSep_cons_of_ne_nil (c : Path) {cs : List Path} (h : cs ≠ []) :
    joinSep (c :: cs) = c ++ sep :: joinSep cs := by
  cases cs with
  | nil => exact absurd rfl h
  | cons d ds => rfl

theorem joinSep_cons_head (c : Path) (cs : List Path) :
    joinSep (c :: cs) = c ∨ ∃ t, joinSep (c :: cs) = c ++ sep :: t := by
  cases cs with
  | nil => exact .inl rfl
  | cons d ds => exact .inr ⟨_, rfl⟩

theorem joinSep_ne_nil {c : Path} (hc : c ≠ []) (cs : List Path) : joinSep (c :: cs) ≠ [] := by
  rcases joinSep_cons_head c cs with h | ⟨t, h⟩ <;> simp [h, hc]

theorem joinSep_comps (p : Path) : joinSep (comps p) = p := by
  induction p using sep_induction with
  | single c hc => rw [comps_sepfree c hc]; rfl
  | cons c rest hc ih =>
    rw [comps_append_sep, comps_sepfree c hc, List.singleton_append, joinSep_cons_of_ne_nil c (comps_ne_nil rest), ih]

theorem comps_inj {p q : Path} (h : comps p = comps q) : p = q := by
  rw [← joinSep_comps p, h, joinSep_comps]

theorem comps_joinSep (cs : List Path) (hne : cs ≠ []) (h : AllSepFree cs) :
    comps (joinSep cs) = cs := by
  induction cs with
  | nil => exact absurd rfl hne
  | cons c cs ih =>
    have hc : sep ∉ c := h c (by simp)
    by_cases hcs : cs = []
    · subst hcs; exact comps_sepfree c hc
    · rw [joinSep_cons_of_ne_nil c hcs, comps_append_sep, comps_sepfree c hc, ih hcs fun x hx => h x (by simp [hx])]; rfl

theorem eq_joinSep_iff (p : Path) (cs : List Path) (hne : cs ≠ []) (h : AllSepFree cs) :
    p = joinSep cs ↔ comps p = cs :=
  ⟨fun e => e ▸ comps_joinSep cs hne h, fun e => e ▸ (joinSep_comps p).symm⟩

end Fsm
